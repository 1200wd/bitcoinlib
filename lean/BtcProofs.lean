import BtcProofs.Properties.C01
import BtcProofs.Properties.C02
import BtcProofs.Properties.C03
import BtcProofs.Properties.C04
import BtcProofs.Properties.C05
import BtcProofs.Properties.C06
import BtcProofs.Properties.C07
import BtcProofs.Properties.C08
import BtcProofs.Properties.C09
import BtcProofs.Properties.C10
import BtcProofs.Properties.C11
import BtcProofs.Properties.C12
import BtcProofs.Properties.C13
import BtcProofs.Properties.C14
import BtcProofs.Properties.C15
import BtcProofs.Properties.C16
import BtcProofs.Properties.C17
import BtcProofs.Properties.C18
import BtcProofs.Properties.C19
import BtcProofs.Properties.C20
