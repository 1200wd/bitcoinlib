import BtcModel.Bech32
/-! Bech32 checksum algebra: the polymod step is XOR-linear and its zero-input map has trivial kernel on 30-bit states, so
the step is injective in the state (and, trivially, in the value); hence a change of one value always changes the
checksum state. -/
namespace Btc

theorem xor_right_cancel {a b c : Nat} (h : a ^^^ c = b ^^^ c) : a = b := by
  have := congrArg (· ^^^ c) h
  simpa only [Nat.xor_assoc, Nat.xor_self, Nat.xor_zero] using this

theorem ite_xor (x y : Bool) (g : Nat) :
    (if (x ^^ y) = true then g else 0) = (if x = true then g else 0) ^^^ (if y = true then g else 0) := by
  cases x <;> cases y <;> simp

/-- `bech32Gen` is a XOR over the set bits of its argument, hence XOR-linear -/
theorem gen_xor (a b : Nat) : bech32Gen (a ^^^ b) = bech32Gen a ^^^ bech32Gen b := by
  unfold bech32Gen
  simp only [Nat.testBit_xor, ite_xor]
  ac_rfl

theorem gen_lt (t : Nat) : bech32Gen t < 2^30 := by
  unfold bech32Gen
  refine Nat.xor_lt_two_pow (Nat.xor_lt_two_pow (Nat.xor_lt_two_pow (Nat.xor_lt_two_pow ?_ ?_) ?_) ?_) ?_
  all_goals split <;> decide

/-- the low five bits of the five generator words are independent -/
theorem gen_low5_inj : ∀ t < 32, bech32Gen t % 32 = 0 → t = 0 := by decide +kernel

theorem polyStep_lt {c v : Nat} (hv : v < 2^30) : polyStep c v < 2^30 := by
  unfold polyStep
  have h1 : (c % 2^25) * 32 < 2^30 := by omega
  exact Nat.xor_lt_two_pow (Nat.xor_lt_two_pow h1 hv) (gen_lt _)

theorem polyStep_inj_right {c a b : Nat} (h : polyStep c a = polyStep c b) : a = b := by
  unfold polyStep at h
  have := xor_right_cancel h
  rw [Nat.xor_comm _ a, Nat.xor_comm _ b] at this
  exact xor_right_cancel this

theorem polyStep_xor (c1 c2 v1 v2 : Nat) :
    polyStep (c1 ^^^ c2) (v1 ^^^ v2) = polyStep c1 v1 ^^^ polyStep c2 v2 := by
  have hm : ∀ a b : Nat, (a ^^^ b) * 32 = a * 32 ^^^ b * 32 := by
    intro a b
    simpa [Nat.shiftLeft_eq] using @Nat.shiftLeft_xor_distrib 5 a b
  unfold polyStep
  rw [Nat.xor_div_two_pow, gen_xor, Nat.xor_mod_two_pow, hm]
  ac_rfl

theorem polyStep_zero_eq_zero {c : Nat} (hc : c < 2^30) (h : polyStep c 0 = 0) : c = 0 := by
  rw [polyStep, Nat.xor_zero] at h
  have heq : (c % 2^25) * 32 = bech32Gen (c / 2^25) := xor_right_cancel (h.trans (Nat.xor_self _).symm)
  -- by `heq` the generator word of the top five bits is a multiple of 32
  have ht : c / 2^25 = 0 := gen_low5_inj _ (Nat.div_lt_of_lt_mul hc) (heq ▸ Nat.mul_mod_left _ 32)
  rw [ht] at heq
  have : bech32Gen 0 = 0 := by decide
  omega

/-- a linear map with trivial kernel is injective; the kernel is trivial below 2^30, so it is the difference that is bounded -/
theorem polyStep_inj_left {c1 c2 v : Nat} (hd : c1 ^^^ c2 < 2^30) (h : polyStep c1 v = polyStep c2 v) : c1 = c2 := by
  have hx := polyStep_xor c1 c2 v v
  rw [h, Nat.xor_self, Nat.xor_self] at hx
  exact xor_right_cancel ((polyStep_zero_eq_zero hd hx).trans (Nat.xor_self c2).symm)

theorem foldl_polyStep_inj (vs : List Nat) {c1 c2 : Nat} (hd : c1 ^^^ c2 < 2^30)
    (h : vs.foldl polyStep c1 = vs.foldl polyStep c2) : c1 = c2 := by
  induction vs generalizing c1 c2 with
  | nil => exact h
  | cons v vs ih =>
    refine polyStep_inj_left hd (ih ?_ h)
    -- the difference of the two states evolves by the zero-input step, whatever `v` is
    rw [← polyStep_xor, Nat.xor_self]
    exact polyStep_lt (by decide)

end Btc
