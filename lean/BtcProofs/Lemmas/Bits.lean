import BtcModel.Bech32
/-! Bit-list lemmas: regrouping a stream of w-bit values into bits and back. `toBits w` and `fromBits w` are inverse
bijections between lists of values below `2 ^ w` and bit lists whose length is a multiple of `w`. -/
namespace Btc

@[simp] theorem bitsOf_length (w v : Nat) : (bitsOf w v).length = w := by
  induction w with
  | zero => rfl
  | succ w ih => simp [bitsOf, ih]

theorem ofBits_lt (l : List Bool) : ofBits l < 2 ^ l.length := by
  induction l with
  | nil => simp [ofBits]
  | cons b l ih =>
    rw [ofBits, List.length_cons, Nat.pow_succ]
    have := Nat.mul_le_mul_right (2 ^ l.length) (Bool.toNat_le b)
    omega

theorem ofBits_bitsOf (w v : Nat) : ofBits (bitsOf w v) = v % 2 ^ w := by
  induction w with
  | zero => simp [bitsOf, ofBits, Nat.mod_one]
  | succ w ih =>
    simp only [bitsOf, ofBits, bitsOf_length, ih, Nat.toNat_testBit]
    rw [Nat.mod_pow_succ, Nat.mul_comm]
    omega

theorem bitsOf_mod {k w : Nat} (hk : k ≤ w) (v : Nat) : bitsOf k (v % 2 ^ w) = bitsOf k v := by
  induction k with
  | zero => rfl
  | succ k ih =>
    rw [bitsOf, bitsOf, ih (Nat.le_of_succ_le hk), Nat.testBit_mod_two_pow, decide_eq_true (show k < w from hk),
      Bool.true_and]

theorem bitsOf_ofBits (l : List Bool) : bitsOf l.length (ofBits l) = l := by
  induction l with
  | nil => rfl
  | cons b l ih =>
    have hlt := ofBits_lt l
    rw [List.length_cons, bitsOf, ofBits, Nat.mul_comm]
    -- the top bit is `b`, the bits below it are those of `ofBits l`
    rw [Nat.testBit_two_pow_mul_add _ hlt, if_neg (Nat.lt_irrefl _), Nat.sub_self, ← bitsOf_mod (Nat.le_refl _),
      Nat.mul_add_mod, Nat.mod_eq_of_lt hlt, ih]
    cases b <;> rfl

theorem chunksOf_flatten (w : Nat) (hw : 0 < w) : ∀ (ls : List (List Bool)) (fuel : Nat),
    (∀ l ∈ ls, l.length = w) → ls.flatten.length < fuel → chunksOf w fuel ls.flatten = ls
  | _, 0, _, hf => absurd hf (Nat.not_lt_zero _)
  | [], fuel + 1, _, _ => by simp [chunksOf]
  | l :: ls, fuel + 1, hall, hf => by
    have hl : l.length = w := hall l (List.mem_cons_self ..)
    have hne : ¬ ((l ++ ls.flatten).isEmpty = true ∨ w = 0) := by
      rw [List.isEmpty_iff, List.append_eq_nil_iff, ← List.length_eq_zero_iff]
      omega
    rw [List.flatten_cons, List.length_append] at hf
    rw [List.flatten_cons, chunksOf, if_neg hne, List.take_left' hl, List.drop_left' hl,
      chunksOf_flatten w hw ls fuel (fun x hx => hall x (List.mem_cons_of_mem _ hx)) (by omega)]

theorem fromBits_flatten (w : Nat) (hw : 0 < w) (ls : List (List Bool)) (h : ∀ l ∈ ls, l.length = w) :
    fromBits w ls.flatten = ls.map ofBits := by
  rw [fromBits, chunksOf_flatten w hw ls _ h (Nat.lt_succ_self _)]

theorem toBits_length (w : Nat) (vals : List Nat) : (toBits w vals).length = vals.length * w := by
  unfold toBits
  induction vals with
  | nil => simp
  | cons v vs ih =>
    simp [List.flatMap_cons, ih, Nat.succ_mul]
    omega

theorem fromBits_toBits (w : Nat) (hw : 0 < w) (vals : List Nat) (h : ∀ v ∈ vals, v < 2 ^ w) :
    fromBits w (toBits w vals) = vals := by
  rw [toBits, List.flatMap_def, fromBits_flatten w hw, List.map_map]
  · exact (List.map_congr_left fun v hv => (ofBits_bitsOf w v).trans (Nat.mod_eq_of_lt (h v hv))).trans (List.map_id vals)
  · intro l hl
    obtain ⟨v, _, rfl⟩ := List.mem_map.mp hl
    exact bitsOf_length w v

theorem exists_toBits (w n : Nat) (bits : List Bool) (h : bits.length = n * w) :
    ∃ vals, toBits w vals = bits ∧ vals.length = n ∧ ∀ v ∈ vals, v < 2 ^ w := by
  induction n generalizing bits with
  | zero => exact ⟨[], (List.eq_nil_of_length_eq_zero (h.trans (Nat.zero_mul w))).symm, rfl, nofun⟩
  | succ n ih =>
    rw [Nat.succ_mul] at h
    obtain ⟨vs, h1, h2, h3⟩ := ih (bits.drop w) (by rw [List.length_drop, h, Nat.add_sub_cancel])
    have hl : (bits.take w).length = w := by rw [List.length_take, h, Nat.min_eq_left (Nat.le_add_left w _)]
    have hb := bitsOf_ofBits (bits.take w)
    have hlt := ofBits_lt (bits.take w)
    rw [hl] at hb hlt
    refine ⟨ofBits (bits.take w) :: vs, ?_, by rw [List.length_cons, h2], List.forall_mem_cons.mpr ⟨hlt, h3⟩⟩
    rw [toBits, List.flatMap_cons, ← toBits, h1, hb, List.take_append_drop]

theorem fromBits_spec (w : Nat) (hw : 0 < w) (n : Nat) {bits : List Bool} (hl : bits.length = n * w) :
    toBits w (fromBits w bits) = bits ∧ (fromBits w bits).length = n ∧ ∀ v ∈ fromBits w bits, v < 2 ^ w := by
  -- the second round trip is the first read backwards
  obtain ⟨vals, rfl, hn, hlt⟩ := exists_toBits w n bits hl
  rw [fromBits_toBits w hw vals hlt]
  exact ⟨rfl, hn, hlt⟩

end Btc
