import BtcModel.Wire
/-! CompactSize: the four forms of `csEnc`, from which every fact about the encoding is a four-way case split, and its domain. -/
namespace Btc

theorem csEnc_eq_some_iff {n : Nat} {e : Bytes} : csEnc n = some e ↔
    (n < 0xfd ∧ e = [UInt8.ofNat n]) ∨ (0xfd ≤ n ∧ n ≤ 0xffff ∧ e = 0xfd :: leBytes n 2) ∨
    (0xffff < n ∧ n ≤ 0xffffffff ∧ e = 0xfe :: leBytes n 4) ∨ (0xffffffff < n ∧ n < 2^64 ∧ e = 0xff :: leBytes n 8) := by
  unfold csEnc
  grind

theorem csEnc_isSome {n : Nat} : (csEnc n).isSome ↔ n < 2^64 := by
  unfold csEnc
  grind

end Btc
