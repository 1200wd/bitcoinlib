import BtcProofs.Lemmas.Digits
/-! `convert b2 b1 ∘ convert b1 b2 = id` on digit lists — Base58 round trip and canonicity.

`convert b1 b2` keeps the number of leading zeros and the value, and a digit list is its leading zeros followed by the
digits of its value (`convert_self`). -/
namespace Btc

theorem leadingZeros_zeros_append (z : Nat) (l : List Nat) :
    leadingZeros (List.replicate z 0 ++ l) = z + leadingZeros l := by
  induction z with
  | zero => simp
  | succ z ih =>
    rw [List.replicate_succ, List.cons_append, leadingZeros, ih]
    omega

theorem leadingZeros_eq_zero {l : List Nat} (h : l.head? ≠ some 0) : leadingZeros l = 0 := by
  fun_cases leadingZeros l with
  | case1 => simp at h
  | case2 => rfl

theorem valLE_concat_zero (b : Nat) (l : List Nat) : valLE b (l ++ [0]) = valLE b l := by
  induction l with
  | nil => simp [valLE]
  | cons x xs ih => simp only [List.cons_append, valLE, ih]

theorem valBE_cons_zero (b : Nat) (l : List Nat) : valBE b (0 :: l) = valBE b l := by
  rw [valBE, List.reverse_cons, valLE_concat_zero, valBE]

theorem valBE_zeros_append (b z : Nat) (l : List Nat) :
    valBE b (List.replicate z 0 ++ l) = valBE b l := by
  induction z with
  | zero => rfl
  | succ z ih => rw [List.replicate_succ, List.cons_append, valBE_cons_zero, ih]

theorem valBE_digitsBE (b : Nat) (hb : 2 ≤ b) (n : Nat) : valBE b (digitsBE b n) = n := by
  unfold valBE digitsBE
  rw [List.reverse_reverse, valLE_digitsLE b hb]

theorem leadingZeros_digitsBE (b : Nat) (hb : 2 ≤ b) (n : Nat) : leadingZeros (digitsBE b n) = 0 := by
  apply leadingZeros_eq_zero
  unfold digitsBE
  rw [List.head?_reverse]
  exact digitsLE_getLast? b hb n

theorem digitsBE_valBE (b : Nat) (hb : 2 ≤ b) (ds : List Nat) (hlt : ∀ d ∈ ds, d < b) (h0 : ds.head? ≠ some 0) :
    digitsBE b (valBE b ds) = ds := by
  unfold digitsBE valBE
  rw [digitsLE_valLE b hb, List.reverse_reverse]
  · simpa using hlt
  · rwa [List.getLast?_reverse]

theorem leadingZeros_convert (b1 b2 : Nat) (h2 : 2 ≤ b2) (ds : List Nat) :
    leadingZeros (convert b1 b2 ds) = leadingZeros ds := by
  rw [convert, leadingZeros_zeros_append, leadingZeros_digitsBE b2 h2, Nat.add_zero]

theorem valBE_convert (b1 b2 : Nat) (h2 : 2 ≤ b2) (ds : List Nat) :
    valBE b2 (convert b1 b2 ds) = valBE b1 ds := by
  rw [convert, valBE_zeros_append, valBE_digitsBE b2 h2]

theorem convert_self (b : Nat) (hb : 2 ≤ b) : ∀ ds : List Nat, (∀ d ∈ ds, d < b) → convert b b ds = ds
  | [], _ => by simp [convert, leadingZeros, valBE, valLE, digitsBE, digitsLE_zero]
  | 0 :: ds, hlt => by
    have ih := convert_self b hb ds (fun d hd => hlt d (List.mem_cons_of_mem _ hd))
    unfold convert at ih ⊢
    rw [valBE_cons_zero, leadingZeros, List.replicate_succ, List.cons_append, ih]
  | (n + 1) :: ds, hlt => by
    rw [convert, digitsBE_valBE b hb _ hlt (by simp)]
    rfl

theorem convert_convert (b1 b2 : Nat) (h1 : 2 ≤ b1) (h2 : 2 ≤ b2) (ds : List Nat)
    (hlt : ∀ d ∈ ds, d < b1) : convert b2 b1 (convert b1 b2 ds) = ds := by
  rw [convert, leadingZeros_convert b1 b2 h2, valBE_convert b1 b2 h2]
  exact convert_self b1 h1 ds hlt

theorem convert_lt (b1 b2 : Nat) (h2 : 2 ≤ b2) (ds : List Nat) : ∀ d ∈ convert b1 b2 ds, d < b2 := by
  intro d hd
  unfold convert digitsBE at hd
  rcases List.mem_append.mp hd with h | h
  · have := (List.mem_replicate.mp h).2
    omega
  · exact digitsLE_lt b2 h2 _ d (List.mem_reverse.mp h)

end Btc
