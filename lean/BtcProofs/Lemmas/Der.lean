import BtcModel.Ecdsa
import BtcProofs.Lemmas.Bytes
/-! Minimal little-endian byte strings (`leBytesMin`) and the strict DER integer built from them (`derInt`). -/
namespace Btc

theorem leBytesMin_zero : leBytesMin 0 = [] := by
  rw [leBytesMin]; simp

theorem leBytesMin_pos {n : Nat} (h : n ≠ 0) :
    leBytesMin n = UInt8.ofNat (n % 256) :: leBytesMin (n / 256) := by
  rw [leBytesMin]; simp [h]

theorem leBytesMin_ne_nil {n : Nat} (h : n ≠ 0) : leBytesMin n ≠ [] := by
  rw [leBytesMin_pos h]; simp

theorem leVal_leBytesMin (n : Nat) : leVal (leBytesMin n) = n := by
  fun_induction leBytesMin n with
  | case1 => rfl
  | case2 n h ih => rw [leVal, ih, toNat_ofNat_mod]; omega

theorem leBytesMin_length_le (n k : Nat) (hk : n < 256 ^ k) : (leBytesMin n).length ≤ k := by
  fun_induction leBytesMin n generalizing k with
  | case1 => exact Nat.zero_le k
  | case2 n h ih =>
    cases k with
    | zero => omega
    | succ k =>
      have := ih k (by rw [Nat.pow_succ'] at hk; exact Nat.div_lt_of_lt_mul hk)
      rw [List.length_cons]
      omega

theorem reverse_leBytesMin {n : Nat} (h : n ≠ 0) :
    ∃ b l, (leBytesMin n).reverse = b :: l ∧ b.toNat ≠ 0 := by
  fun_induction leBytesMin n with
  | case1 => exact absurd rfl h
  | case2 n _ ih =>
    rw [List.reverse_cons]
    by_cases h2 : n / 256 = 0
    · rw [h2, leBytesMin_zero]
      exact ⟨_, [], rfl, by rw [toNat_ofNat_mod]; omega⟩
    · obtain ⟨b, l, hbl, hb0⟩ := ih h2
      rw [hbl]
      exact ⟨b, l ++ [_], rfl, hb0⟩

theorem leVal_concat_zero (l : Bytes) : leVal (l ++ [0]) = leVal l := by
  induction l with
  | nil => rfl
  | cons a t ih => rw [List.cons_append, leVal, leVal, ih]

theorem beVal_cons_zero (l : Bytes) : beVal (0 :: l) = beVal l := by
  rw [beVal, List.reverse_cons, leVal_concat_zero, beVal]

theorem derIntOk_cons_zero {b : Byte} (l : Bytes) (h : 0x80 ≤ b.toNat) : derIntOk (0 :: b :: l) = true := by
  have : ¬ b.toNat < 0x80 := by omega
  simp [derIntOk, this]

theorem derIntOk_cons {b : Byte} (l : Bytes) (h : b.toNat < 0x80) (h0 : b.toNat ≠ 0) : derIntOk (b :: l) = true := by
  simp [derIntOk, h, h0]

theorem derInt_spec (n : Nat) (h1 : 1 ≤ n) (h2 : n < 2 ^ 256) :
    beVal (derInt n) = n ∧ (derInt n).length ≤ 33 ∧ derIntOk (derInt n) = true := by
  obtain ⟨b, l, hbl, hb0⟩ := reverse_leBytesMin (n := n) (by omega)
  have hval : beVal (b :: l) = n := by rw [← hbl, beVal, List.reverse_reverse, leVal_leBytesMin]
  have hlen : (b :: l).length ≤ 32 := by
    rw [← hbl, List.length_reverse]
    exact leBytesMin_length_le n 32 (by omega)
  have hd : derInt n = if b.toNat ≥ 0x80 then 0 :: b :: l else b :: l := by
    simp [derInt, hbl]
  rw [hd]
  split
  · rename_i hhi
    exact ⟨by rw [beVal_cons_zero, hval], by rw [List.length_cons]; omega, derIntOk_cons_zero l hhi⟩
  · rename_i hhi
    exact ⟨hval, by omega, derIntOk_cons l (by omega) hb0⟩

end Btc
