import BtcModel.Base58
/-! Positional digit lemmas (any base ≥ 2), little-endian: `digitsLE b` and `valLE b` are inverse bijections between the
naturals and the digit lists with all digits `< b` and no zero in the most significant (last) place. -/
namespace Btc

theorem digitsLE_zero (b : Nat) : digitsLE b 0 = [] := by
  rw [digitsLE, dif_pos (Or.inl rfl)]

theorem digitsLE_of_ne_zero {b n : Nat} (hb : 2 ≤ b) (hn : n ≠ 0) :
    digitsLE b n = n % b :: digitsLE b (n / b) := by
  rw [digitsLE, dif_neg (by omega)]

theorem valLE_digitsLE (b : Nat) (hb : 2 ≤ b) (n : Nat) : valLE b (digitsLE b n) = n := by
  fun_induction digitsLE b n with
  | case1 n h =>
    rw [valLE]
    omega
  | case2 n h ih =>
    have := Nat.div_add_mod n b
    simp only [valLE, ih]
    omega

theorem digitsLE_lt (b : Nat) (hb : 2 ≤ b) (n : Nat) : ∀ d ∈ digitsLE b n, d < b := by
  fun_induction digitsLE b n with
  | case1 => simp
  | case2 n h ih =>
    intro d hd
    rcases List.mem_cons.mp hd with rfl | hd
    · exact Nat.mod_lt _ (by omega)
    · exact ih d hd

theorem digitsLE_getLast? (b : Nat) (hb : 2 ≤ b) (n : Nat) : (digitsLE b n).getLast? ≠ some 0 := by
  fun_induction digitsLE b n with
  | case1 => simp
  | case2 n h ih =>
    by_cases hq : n / b = 0
    · -- a single digit, `n` itself
      have : n % b ≠ 0 := by
        have := Nat.div_add_mod n b
        rw [hq] at this
        omega
      simpa [hq, digitsLE_zero] using this
    · rw [digitsLE_of_ne_zero hb hq] at ih ⊢
      rwa [List.getLast?_cons_cons]

theorem digitsLE_valLE (b : Nat) (hb : 2 ≤ b) : ∀ ds : List Nat, (∀ d ∈ ds, d < b) → ds.getLast? ≠ some 0 →
    digitsLE b (valLE b ds) = ds
  | [], _, _ => digitsLE_zero b
  | d :: ds, hlt, hlast => by
    have hd : d < b := hlt d (List.mem_cons_self ..)
    rw [List.getLast?_cons] at hlast
    have ih := digitsLE_valLE b hb ds (fun x hx => hlt x (List.mem_cons_of_mem _ hx))
      (fun h => hlast (by rw [h, Option.getD_some]))
    have hne : d + b * valLE b ds ≠ 0 := by
      intro h0
      obtain ⟨rfl, hbv⟩ := Nat.add_eq_zero_iff.mp h0
      -- a zero value would have no digits, and then the last digit is `d = 0`
      rw [(Nat.mul_eq_zero.mp hbv).resolve_left (by omega), digitsLE_zero] at ih
      subst ih
      exact hlast rfl
    rw [valLE, digitsLE_of_ne_zero hb hne, Nat.add_mul_mod_self_left, Nat.mod_eq_of_lt hd,
      Nat.add_mul_div_left _ _ (by omega : 0 < b), Nat.div_eq_of_lt hd, Nat.zero_add, ih]

end Btc
