import BtcModel.Wallet.KeyPaths
/-! Lemmas for C09: the machine of key rows.  Every step of the machine is the identity, `markUsed`, or one
`addRows` at indices the chain does not have yet (`step_induct`, the case analysis of `step` as a rule); the invariant `Inv` and gap-freeness are
shown for these two operations and carried along `run` by `List.foldlRecOn`. -/
namespace Btc.KeyPaths

theorem newRows_spec {ms : Bool} {c : Chain} {n index id : Nat} {rs : List KeyRow}
    (h : newRows ms c index id n = some rs) :
    rs.map (·.index) = List.range' index n ∧ rs.map (·.id) = List.range' id n ∧
    ∀ r ∈ rs, r.chain = c ∧ r.used = false ∧ pathOf ms c r.index = some r.path := by
  fun_induction newRows ms c index id n generalizing rs with
  | case1 =>
    cases h
    exact ⟨rfl, rfl, fun _ hr => nomatch hr⟩
  | case2 index id n p rs' hrs hp ih =>
    cases h
    obtain ⟨h1, h2, h3⟩ := ih hrs
    refine ⟨?_, ?_, List.forall_mem_cons.mpr ⟨⟨rfl, rfl, hp⟩, h3⟩⟩
    · rw [List.map_cons, h1, List.range'_succ]
    · rw [List.map_cons, h2, List.range'_succ]
  | case3 => cases h

theorem addRows_spec {st st' : St} {c : Chain} {index n : Nat} {rs : List KeyRow}
    (h : addRows st c index n = some (st', rs)) :
    st' = { st with rows := st.rows ++ rs, nextId := st.nextId + n } ∧
    rs.map (·.index) = List.range' index n ∧ rs.map (·.id) = List.range' st.nextId n ∧
    ∀ r ∈ rs, r.chain = c ∧ r.used = false ∧ pathOf st.multisig c r.index = some r.path := by
  obtain ⟨rs0, hrs, heq⟩ := Option.map_eq_some_iff.mp h
  cases heq
  exact ⟨rfl, newRows_spec hrs⟩

/-- `nextIndex` is the least strict upper bound of the indices of the chain -/
theorem nextIndex_le_iff {st : St} {c : Chain} {b : Nat} :
    nextIndex st c ≤ b ↔ ∀ r ∈ chainRows st c, r.index < b := by
  unfold nextIndex
  induction chainRows st c with
  | nil => exact iff_of_true (Nat.zero_le b) fun _ h => nomatch h
  | cons r l ih =>
    rw [List.forall_mem_cons, ← ih, maxIndex]
    cases maxIndex l with
    | none => exact (and_iff_left (Nat.zero_le b)).symm
    | some m => exact Nat.max_lt

theorem lt_nextIndex (st : St) (c : Chain) : ∀ r ∈ chainRows st c, r.index < nextIndex st c :=
  nextIndex_le_iff.mp (Nat.le_refl _)

theorem markUsed_rows (st : St) (id : Nat) :
    (markUsed st id).rows = st.rows.map fun r => { r with used := r.used || r.id == id } :=
  List.map_congr_left fun r _ => by split <;> simp [*]

/-- the case analysis of `step`, as a rule: what holds of the state, of the state with a key marked used, and after every
`addRows` at indices the chain does not have (the first one `nextIndex` unless the operation is `keyForIndex`) holds after
the step -/
theorem step_induct {P : St → Prop} {st : St} (op : Op) (h0 : P st) (hm : ∀ id, P (markUsed st id))
    (ha : ∀ c i n st' rs, addRows st c i n = some (st', rs) →
      (∀ r ∈ chainRows st c, r.index < i ∨ i + n ≤ r.index) → (i = nextIndex st c ∨ op = .keyForIndex c i) → P st') :
    P (step st op) := by
  cases op with
  | markUsed id => exact hm id
  | newKeys c n =>
    rw [step]
    cases h : newKeys st c n with
    | none => exact h0
    | some p => exact ha c _ n p.1 p.2 h (fun r hr => .inl (lt_nextIndex st c r hr)) (.inl rfl)
  | getKeys c n =>
    rw [step, getKeys]
    split
    · exact h0
    · split
      · exact h0
      · rename_i rs hnew
        exact ha c _ _ _ rs hnew (fun r hr => .inl (lt_nextIndex st c r hr)) (.inl rfl)
  | keyForIndex c i =>
    rw [step, keyForIndex]
    split
    · exact h0
    · rename_i hfind
      split
      · rename_i hadd
        refine ha c i 1 _ _ hadd (fun r hr => ?_) (.inr rfl)
        have : r.index ≠ i := by simpa using List.find?_eq_none.mp hfind r hr
        exact Nat.lt_or_gt_of_ne this
      · exact h0

structure Inv (ms : Bool) (st : St) : Prop where
  multisig : st.multisig = ms
  paths : ∀ r ∈ st.rows, pathOf ms r.chain r.index = some r.path
  nodup : (st.rows.map fun r => (r.chain, r.index)).Nodup

theorem inv_init (ms : Bool) : Inv ms (init ms) :=
  ⟨rfl, fun _ hr => (nomatch hr), List.nodup_nil⟩

theorem inv_markUsed {ms : Bool} {st : St} (hinv : Inv ms st) (id : Nat) : Inv ms (markUsed st id) := by
  refine ⟨hinv.multisig, ?_, ?_⟩
  · rw [markUsed_rows]
    exact List.forall_mem_map.mpr hinv.paths
  · rw [markUsed_rows, List.map_map]
    exact hinv.nodup

theorem inv_addRows {ms : Bool} {st st' : St} {c : Chain} {i n : Nat} {rs : List KeyRow} (hinv : Inv ms st)
    (hfresh : ∀ r ∈ chainRows st c, r.index < i ∨ i + n ≤ r.index)
    (h : addRows st c i n = some (st', rs)) : Inv ms st' := by
  obtain ⟨rfl, hidx, -, hrs⟩ := addRows_spec h
  rw [hinv.multisig] at hrs
  refine ⟨hinv.multisig, ?_, ?_⟩
  · intro r hr
    rcases List.mem_append.mp hr with hr | hr
    · exact hinv.paths r hr
    · rw [(hrs r hr).1]
      exact (hrs r hr).2.2
  · rw [List.map_append, List.nodup_append]
    refine ⟨hinv.nodup, ?_, ?_⟩
    · -- the new rows have distinct indices
      refine List.Pairwise.of_map (S := (· ≠ ·)) Prod.snd (fun _ _ hne e => hne (congrArg Prod.snd e)) ?_
      rw [List.map_map]
      exact hidx ▸ List.nodup_range'
    · -- an old row of chain `c` has none of the new indices
      intro a ha b hb hab
      subst hab
      obtain ⟨r, hr, rfl⟩ := List.mem_map.mp ha
      obtain ⟨r', hr', he⟩ := List.mem_map.mp hb
      rw [Prod.mk.injEq, (hrs r' hr').1] at he
      have hold := hfresh r (List.mem_filter.mpr ⟨hr, by simp [he.1]⟩)
      have hnew : r'.index ∈ List.range' i n := hidx ▸ List.mem_map_of_mem hr'
      rw [List.mem_range'_1, he.2] at hnew
      omega

theorem inv_step {ms : Bool} {st : St} (hinv : Inv ms st) (op : Op) : Inv ms (step st op) :=
  step_induct op hinv (inv_markUsed hinv) fun _ _ _ _ _ h hfresh _ => inv_addRows hinv hfresh h

theorem inv_run {ms : Bool} {st : St} (hinv : Inv ms st) (ops : List Op) : Inv ms (run st ops) :=
  List.foldlRecOn ops step hinv fun _ h op _ => inv_step h op

/-- gap-freeness: the indices of every chain are `0, 1, …, k-1` in creation order -/
def GapFree (st : St) : Prop := ∀ c, (chainRows st c).map (·.index) = List.range (chainRows st c).length

theorem nextIndex_of_gapfree {st : St} (hg : GapFree st) (c : Chain) :
    nextIndex st c = (chainRows st c).length := by
  have hmem : ∀ j, j < (chainRows st c).length ↔ ∃ r ∈ chainRows st c, r.index = j := fun j => by
    rw [← List.mem_range, ← hg c, List.mem_map]
  apply Nat.le_antisymm
  · exact nextIndex_le_iff.mpr fun r hr => (hmem _).mpr ⟨r, hr, rfl⟩
  · refine Nat.le_of_not_lt fun hlt => ?_
    obtain ⟨r, hr, he⟩ := (hmem _).mp hlt
    exact Nat.ne_of_lt (lt_nextIndex st c r hr) he

theorem gapfree_markUsed {st : St} (hg : GapFree st) (id : Nat) : GapFree (markUsed st id) := by
  intro c
  rw [chainRows, markUsed_rows, List.filter_map, List.map_map, List.length_map]
  exact hg c

theorem gapfree_addRows {st st' : St} {c : Chain} {n : Nat} {rs : List KeyRow} (hg : GapFree st)
    (h : addRows st c (nextIndex st c) n = some (st', rs)) : GapFree st' := by
  obtain ⟨rfl, hidx, -, hrs⟩ := addRows_spec h
  intro c'
  rw [chainRows, List.filter_append, ← chainRows]
  by_cases e : c = c'
  · subst e
    have hlen : rs.length = n := by rw [← List.length_map (·.index), hidx, List.length_range']
    rw [List.filter_eq_self.mpr fun r hr => by simp [(hrs r hr).1], List.map_append, hg c, hidx,
      nextIndex_of_gapfree hg c, List.length_append, hlen, List.range_add, List.range'_eq_map_range]
  · rw [List.filter_eq_nil_iff.mpr fun r hr => by simp [(hrs r hr).1, e], List.append_nil]
    exact hg c'

end Btc.KeyPaths
