import BtcModel.Wallet.Multisig
/-! The slots of `Transaction.sign` (`placeAll`) in closed form.  A reachable slot list is `slotsOf n A` for the list `A` of
cosigners that have signed, and both `put` operations add their argument to `A`, whether or not it is below `n`; so core's
`List.foldl_hom` moves the two folds of `placeAll` to the lists of signers, and the signatures stored are the key
positions below `n` that have signed, in key order (`placeAll_eq_filter`). -/
namespace Btc.Multisig

/-- the slots of `n` keys when the cosigners at the positions in `A` have signed: slot `i` holds `i` if `i ∈ A` and is
empty otherwise -/
def slotsOf (n : Nat) (A : List Nat) : Slots := (List.range n).map (Option.guard (· ∈ A))

theorem length_slotsOf (n : Nat) (A : List Nat) : (slotsOf n A).length = n := by
  simp [slotsOf]

theorem getElem_slotsOf (n : Nat) (A : List Nat) (i : Nat) (h : i < (slotsOf n A).length) :
    (slotsOf n A)[i] = if i ∈ A then some i else none := by
  simp [slotsOf, Option.guard]

theorem putNew_slotsOf (n : Nat) (A : List Nat) (p : Nat) : putNew (slotsOf n A) p = slotsOf n (p :: A) := by
  refine List.ext_getElem (by simp [putNew, length_slotsOf]) fun i h1 h2 => ?_
  simp only [putNew, List.getElem_set, getElem_slotsOf, List.mem_cons]
  by_cases h : i = p
  · simp [h]
  · simp [h, Ne.symm h]

theorem putKnown_slotsOf (n : Nat) (A : List Nat) (p : Nat) : putKnown (slotsOf n A) p = slotsOf n (p :: A) := by
  unfold putKnown
  split
  · exact putNew_slotsOf n A p
  · rename_i h
    refine List.ext_getElem (by simp [length_slotsOf]) fun i h1 h2 => ?_
    simp only [getElem_slotsOf, List.mem_cons]
    by_cases hi : i = p
    · -- slot `p` is not empty, so `p ∈ A` already
      subst hi
      simp [List.getElem?_eq_getElem h1, getElem_slotsOf] at h
      simp [h]
    · simp [hi]

theorem slotsOf_nil (n : Nat) : slotsOf n [] = List.replicate n none := by
  simp [slotsOf, List.map_const']

theorem filterMap_slotsOf (n : Nat) (A : List Nat) : (slotsOf n A).filterMap id = (List.range n).filter (· ∈ A) := by
  rw [slotsOf, List.filterMap_map, Function.id_comp, List.filterMap_eq_filter]

/-- the stored signatures are the key positions below `n` whose cosigner has signed, in key order -/
theorem placeAll_eq_filter (n : Nat) (new known : List Nat) :
    placeAll n new known = (List.range n).filter (fun x => x ∈ new ∨ x ∈ known) := by
  rw [placeAll, ← slotsOf_nil, List.foldl_hom (slotsOf n) (putNew_slotsOf n), List.foldl_hom (slotsOf n) (putKnown_slotsOf n),
    filterMap_slotsOf]
  simp [or_comm]

end Btc.Multisig
