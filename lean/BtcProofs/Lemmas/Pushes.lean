import BtcModel.Wire
import BtcProofs.Lemmas.Bytes
/-! Pushes and the two script readers (`tokF`, consensus; `parseF`, the library's): both step over an opcode and
over a packed data item in the same way, which is all that reading back a serialisation needs. -/
namespace Btc

theorem dataPack_eq_some_iff {d p : Bytes} : dataPack d = some p ↔
    (d.length ≤ 75 ∧ p = UInt8.ofNat d.length :: d) ∨
    (75 < d.length ∧ d.length ≤ 255 ∧ p = 0x4c :: UInt8.ofNat d.length :: d) ∨
    (255 < d.length ∧ d.length ≤ 65535 ∧ p = 0x4d :: (leBytes d.length 2 ++ d)) := by
  unfold dataPack
  grind

/-- a packed item is an opcode byte, a length field and the data, and both readers see that header:
(length of the length field, length of the data) -/
theorem pack_shape {d p : Bytes} (h : dataPack d = some p) (h1 : 1 ≤ d.length) :
    ∃ b hdr, p = b :: (hdr ++ d) ∧
      (∀ r, pushHdrSpec b (hdr ++ (d ++ r)) = some (hdr.length, d.length)) ∧
      (∀ r, pushHdrImpl b (hdr ++ (d ++ r)) = (hdr.length, d.length)) := by
  rcases dataPack_eq_some_iff.mp h with ⟨h2, rfl⟩ | ⟨h2, h3, rfl⟩ | ⟨h2, h3, rfl⟩
  · have e := toNat_ofNat_lt (by omega : d.length < 256)
    refine ⟨_, [], rfl, fun r => ?_, fun r => ?_⟩
    · rw [pushHdrSpec, e, if_neg (by omega), if_pos h2]
      rfl
    · rw [pushHdrImpl, e, if_pos ⟨h1, h2⟩]
      rfl
  · refine ⟨_, [_], rfl, fun r => ?_, fun r => ?_⟩ <;>
      simp [pushHdrSpec, pushHdrImpl, leVal, toNat_ofNat_lt (by omega : d.length < 256)]
  · refine ⟨_, leBytes d.length 2, rfl, fun r => ?_, fun r => ?_⟩ <;>
      simp [pushHdrSpec, pushHdrImpl, leVal_leBytes] <;> omega

theorem dataPack_isSome {d : Bytes} : (dataPack d).isSome ↔ d.length ≤ 65535 := by
  unfold dataPack
  grind

/-- A fuelled reader `T` that steps over a non-push opcode and over a packed data item: every list of well-formed
commands serialises, and `T` reads the bytes back, given fuel for every byte and any amount more. -/
theorem read_serialize (T : Nat → Bytes → Option (List Cmd)) (hnil : ∀ f, T f [] = some [])
    (hop : ∀ f b rest, (Cmd.op b).WF → T (f + 1) (b :: rest) = (T f rest).map (Cmd.op b :: ·))
    (hdata : ∀ f d p r, (Cmd.data d).WF → dataPack d = some p → T (f + 1) (p ++ r) = (T f r).map (Cmd.data d :: ·)) :
    ∀ (cs : List Cmd), (∀ c ∈ cs, c.WF) → ∃ bs, serialize cs = some bs ∧ ∀ f, T (bs.length + f) bs = some cs
  | [], _ => ⟨[], rfl, fun _ => hnil _⟩
  | c :: cs, hwf => by
    obtain ⟨hc, hcs⟩ := List.forall_mem_cons.mp hwf
    obtain ⟨r, hr, ih⟩ := read_serialize T hnil hop hdata cs hcs
    cases c with
    | op b =>
      refine ⟨b :: r, by simp [serialize, hr], fun f => ?_⟩
      rw [List.length_cons, Nat.add_right_comm, hop _ b r hc, ih f]
      rfl
    | data d =>
      obtain ⟨p, hp⟩ := Option.isSome_iff_exists.mp (dataPack_isSome.mpr hc.2)
      refine ⟨p ++ r, by simp [serialize, hr, hp], fun f => ?_⟩
      -- a packed item has at least its opcode byte, so the fuel is one step and what the rest needs, with some slack `g`
      obtain ⟨g, hg⟩ : ∃ g, (p ++ r).length + f = r.length + g + 1 := by
        obtain ⟨b, hdr, rfl, _⟩ := pack_shape hp hc.1
        exact ⟨hdr.length + d.length + f, by simp; omega⟩
      rw [hg, hdata _ d p r hc hp, ih g]
      rfl

end Btc
