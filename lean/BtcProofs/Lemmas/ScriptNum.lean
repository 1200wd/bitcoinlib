import BtcModel.Wire
import BtcProofs.Lemmas.Bytes
/-! Script numbers: `decMag` inverts `encMag`, and the minimal byte strings are exactly the encodings. -/
namespace Btc

theorem encMag_ne_nil (a : Nat) (neg : Bool) : encMag a neg ≠ [] := by
  fun_cases encMag a neg <;> simp

theorem decMag_cons_of_ne_nil (b : Byte) {l : Bytes} (h : l ≠ []) :
    decMag (b :: l) = (b.toNat + 256 * (decMag l).1, (decMag l).2) := by
  cases l with
  | nil => exact absurd rfl h
  | cons c rest => rfl

theorem decMag_encMag (a : Nat) (neg : Bool) : decMag (encMag a neg) = (a, neg) := by
  fun_induction encMag a neg with
  | case1 a h => cases neg <;> simp [decMag, toNat_ofNat_lt (by omega : a < 256)] <;> omega
  | case2 a h1 h2 => cases neg <;> simp [decMag, toNat_ofNat_lt h2]
  | case3 a h1 h2 ih =>
    rw [decMag_cons_of_ne_nil _ (encMag_ne_nil _ _), ih, toNat_ofNat_mod]
    simp; omega

theorem numMinimal_cons (b : Byte) : ∀ {l : Bytes}, numMinimal l = true → l ≠ [] → numMinimal (b :: l) = true
  | [], _, h => absurd rfl h
  | [c], hm, _ => by simp [numMinimal] at hm ⊢; exact .inl hm
  | _ :: _ :: _, hm, _ => hm

theorem numMinimal_encMag (a : Nat) (neg : Bool) (ha : 0 < a) : numMinimal (encMag a neg) = true := by
  fun_induction encMag a neg with
  | case1 a h => cases neg <;> simp [numMinimal, toNat_ofNat_lt (by omega : a < 256)] <;> omega
  | case2 a h1 h2 => simp [numMinimal, toNat_ofNat_lt h2]; omega
  | case3 a h1 h2 ih => exact numMinimal_cons _ (ih (Nat.div_pos (Nat.le_of_not_lt h2) (by decide))) (encMag_ne_nil _ _)

theorem encMag_byte (b : Byte) : encMag (b.toNat % 128) (decide (b.toNat ≥ 128)) = [b] := by
  have hb := b.toNat_lt
  have : b.toNat % 128 + (if decide (b.toNat ≥ 128) then 128 else 0) = b.toNat := by split <;> simp_all <;> omega
  rw [encMag, if_pos (Nat.mod_lt _ (by decide)), this, UInt8.ofNat_toNat]

/-- a byte in front of an encoding is the encoding of the longer magnitude; only a byte below 128 in front of the
magnitude 0 is not, since it would have taken the sign itself -/
theorem encMag_cons (b : Byte) {m : Nat} (h : 0 < m ∨ 128 ≤ b.toNat) (neg : Bool) :
    encMag (b.toNat + 256 * m) neg = b :: encMag m neg := by
  have hb : b.toNat < 256 := b.toNat_lt
  rw [encMag, if_neg (by omega)]
  split
  · obtain rfl : m = 0 := by omega
    cases neg <;> simp [encMag]
  · rw [Nat.add_mul_mod_self_left, Nat.mod_eq_of_lt hb, Nat.add_mul_div_left _ _ (by decide), Nat.div_eq_of_lt hb,
      Nat.zero_add, UInt8.ofNat_toNat]

theorem exists_encMag_of_minimal : ∀ (b : Byte) (l : Bytes), numMinimal (b :: l) = true → ∃ a neg, 0 < a ∧ encMag a neg = b :: l
  | b, [], hm => ⟨_, _, Nat.pos_of_ne_zero (by simpa [numMinimal] using hm), encMag_byte b⟩
  | b, [c], hm => by
    have hm : 0 < c.toNat % 128 ∨ 128 ≤ b.toNat := by simp [numMinimal] at hm; exact hm.imp_left Nat.pos_of_ne_zero
    exact ⟨b.toNat + 256 * (c.toNat % 128), _, by omega, by rw [encMag_cons b hm, encMag_byte]⟩
  | b, c :: d :: rest, hm => by
    obtain ⟨a, neg, ha, h⟩ := exists_encMag_of_minimal c (d :: rest) hm
    exact ⟨b.toNat + 256 * a, neg, by omega, by rw [encMag_cons b (.inl ha), h]⟩

theorem exists_encodeNum_of_minimal (l : Bytes) (h : numMinimal l = true) : ∃ z, encodeNum z = l := by
  cases l with
  | nil => exact ⟨0, rfl⟩
  | cons x xs =>
    obtain ⟨a, neg, ha, he⟩ := exists_encMag_of_minimal x xs h
    refine ⟨if neg then -(a : Int) else a, ?_⟩
    rw [← he]
    cases neg <;> simp [encodeNum, ha, Nat.ne_of_gt ha, Int.not_lt.mpr (Int.natCast_nonneg a)]

theorem encMag_length_le (a : Nat) (neg : Bool) (k : Nat) : (encMag a neg).length ≤ k + 1 ↔ a < 128 * 256 ^ k := by
  fun_induction encMag a neg generalizing k with
  | case1 a h =>
    have := Nat.pow_pos (n := k) (by decide : 0 < 256)
    simp; omega
  | case2 a h1 h2 =>
    cases k with
    | zero => simp; omega
    | succ k =>
      have := Nat.pow_pos (n := k) (by decide : 0 < 256)
      simp [Nat.pow_succ]; omega
  | case3 a h1 h2 ih =>
    have hne := List.length_pos_iff.mpr (encMag_ne_nil (a / 256) neg)
    cases k with
    | zero => simp only [List.length_cons, Nat.pow_zero]; omega
    | succ k =>
      rw [List.length_cons, Nat.add_le_add_iff_right, ih k, Nat.div_lt_iff_lt_mul (by decide), Nat.pow_succ, Nat.mul_assoc]

end Btc
