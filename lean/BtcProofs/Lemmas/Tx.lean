import BtcModel.Tx
import BtcModel.Block
import BtcProofs.Lemmas.Bytes
import BtcProofs.Lemmas.CompactSize
/-! The stream readers of `Tx.lean` on fixed-width fields and counts, in both directions: what was serialised is read
back, and what a reader accepts re-serialises to the bytes read; the same for `readN` over any item reader, and the
second direction for the block header. -/
namespace Btc

theorem readFixed_leBytes {n : Nat} (k : Nat) {r : Bytes} (h : n < 256 ^ k) :
    readFixed k (leBytes n k ++ r) = some (n, r) := by
  simp [readFixed, leVal_leBytes, Nat.mod_eq_of_lt h]

theorem readBytes_append {k : Nat} {b r : Bytes} (h : b.length = k) : readBytes k (b ++ r) = some (b, r) := by
  simp [readBytes, ← h]

theorem readFixed_of_le {k : Nat} {bs : Bytes} (h : k ≤ bs.length) :
    readFixed k bs = some (leVal (bs.take k), bs.drop k) := if_neg (Nat.not_lt.mpr h)

theorem readBytes_of_le {k : Nat} {bs : Bytes} (h : k ≤ bs.length) : readBytes k bs = some (bs.take k, bs.drop k) :=
  if_neg (Nat.not_lt.mpr h)

theorem readFixed_some (k : Nat) (bs : Bytes) (v : Nat) (r : Bytes) (h : readFixed k bs = some (v, r)) :
    leBytes v k ++ r = bs ∧ v < 256 ^ k := by
  unfold readFixed at h
  obtain ⟨hk, h⟩ := Option.ite_none_left_eq_some.mp h
  cases h
  exact ⟨by rw [leBytes_leVal_take (Nat.le_of_not_lt hk), List.take_append_drop], leVal_take_lt bs k⟩

theorem readBytes_some (k : Nat) (bs b r : Bytes) (h : readBytes k bs = some (b, r)) :
    b ++ r = bs ∧ b.length = k := by
  unfold readBytes at h
  obtain ⟨hk, h⟩ := Option.ite_none_left_eq_some.mp h
  cases h
  exact ⟨List.take_append_drop k bs, List.length_take_of_le (Nat.le_of_not_lt hk)⟩

theorem csE_eq (n : Nat) (h : n < 2^64) : csEnc n = some (csE n) := by
  obtain ⟨e, he⟩ := Option.isSome_iff_exists.mp (csEnc_isSome.mpr h)
  rw [csE, he]
  rfl

theorem readCs_csE (n : Nat) (h : n < 2^64) (r : Bytes) : readCs (csE n ++ r) = some (n, r) := by
  rcases csEnc_eq_some_iff.mp (csE_eq n h) with ⟨h1, e⟩ | ⟨h1, h2, e⟩ | ⟨h1, h2, e⟩ | ⟨h1, h2, e⟩ <;> rw [e]
  · simp [readCs, toNat_ofNat_lt (Nat.lt_trans h1 (by decide)), h1]
  · simpa [readCs] using readFixed_leBytes 2 (r := r) (Nat.lt_succ_of_le h2)
  · simpa [readCs] using readFixed_leBytes 4 (r := r) (Nat.lt_succ_of_le h2)
  · simpa [readCs] using readFixed_leBytes 8 (r := r) h2

theorem isSegwitMarker_eq_true {bs : Bytes} (h : isSegwitMarker bs = true) : ∃ r, bs = 0x00 :: 0x01 :: r := by
  unfold isSegwitMarker at h
  split at h
  · exact ⟨_, rfl⟩
  · contradiction

/-- a legacy input list is not read as the BIP144 marker: a count beginning `00 01` would be read back as the count 0 -/
theorem isSegwitMarker_serIns {ins : List TxIn} (h1 : ins ≠ []) (h : ins.length < 2^64) (r : Bytes) :
    isSegwitMarker (serIns ins ++ r) = false := by
  refine Bool.eq_false_iff.mpr fun hm => h1 ?_
  obtain ⟨x, e⟩ := isSegwitMarker_eq_true hm
  have hc := readCs_csE ins.length h ((ins.map serIn).flatten ++ r)
  rw [← List.append_assoc, ← serIns, e] at hc
  exact List.length_eq_zero_iff.mp (Prod.mk.inj (Option.some.inj hc)).1.symm

/-! ## Readers against serialisers

Every reader of the model returns a value and the rest of the stream.  Two relations to a serialiser carry all
round-trip statements: `Reads` (what `ser` writes, `rd` reads back) and `Strict` (what `rd` accepts is what `ser`
writes - and a second, laxer reader accepts it too, with the same result).

A `Strict` proof inverts `h : rd bs = some (a, r)`: `repeat' split at h` takes the `match` chain of `rd` apart, and
`cases h` then closes every branch that ended in `none` and, in the one that is left, identifies `a` and `r` with what
was read.  Each `match` passed leaves the value read, the rest of the stream, the equation saying so, and one nameless
hypothesis, in that order: this is what the `rename_i` lines name.  The equations of the field readers are substituted
into `bs` (`obtain ⟨rfl, _⟩`), which leaves the associativity of `++` to show. -/

def Reads {α : Type} (rd : Bytes → Option (α × Bytes)) (ser : α → Bytes) (P : α → Prop) : Prop :=
  ∀ a, P a → ∀ r, rd (ser a ++ r) = some (a, r)

def Strict {α : Type} (rd rd' : Bytes → Option (α × Bytes)) (ser : α → Bytes) : Prop :=
  ∀ {bs a r}, rd bs = some (a, r) → ser a ++ r = bs ∧ rd' bs = some (a, r)

theorem readN_ser {α : Type} {rd : Bytes → Option (α × Bytes)} {ser : α → Bytes} {P : α → Prop} (h : Reads rd ser P)
    (l : List α) (hl : ∀ a ∈ l, P a) (r : Bytes) : readN rd l.length ((l.map ser).flatten ++ r) = some (l, r) := by
  induction l with
  | nil => rfl
  | cons a l ih =>
    simp only [List.map_cons, List.flatten_cons, List.length_cons, readN, List.append_assoc,
      h a (hl a List.mem_cons_self), ih fun x hx => hl x (List.mem_cons_of_mem _ hx)]

theorem readN_strict {α : Type} {rd rd' : Bytes → Option (α × Bytes)} {ser : α → Bytes} (h : Strict rd rd' ser)
    {k : Nat} {bs : Bytes} {l : List α} {r : Bytes} (hl : readN rd k bs = some (l, r)) :
    (l.map ser).flatten ++ r = bs ∧ l.length = k ∧ readN rd' k bs = some (l, r) := by
  induction k generalizing bs l with
  | zero =>
    cases hl
    exact ⟨rfl, rfl, rfl⟩
  | succ k ih =>
    unfold readN at hl
    repeat' split at hl
    all_goals cases hl
    rename_i a r1 e _ as e'
    obtain ⟨rfl, c⟩ := h e
    obtain ⟨rfl, rfl, cN⟩ := ih e'
    exact ⟨by simp only [List.map_cons, List.flatten_cons, List.append_assoc], rfl, by simp only [readN, c, cN]⟩

theorem serHeader_readHeader (bs : Bytes) (h : BlockHeader) (r : Bytes) (hr : readHeader bs = some (h, r)) :
    serHeader h ++ r = bs ∧ h.WF := by
  unfold readHeader at hr
  repeat' split at hr
  all_goals cases hr
  rename_i v r1 e1 _ p r2 e2 _ m r3 e3 _ t r4 e4 _ b r5 e5 _ n e6
  obtain ⟨rfl, b1⟩ := readFixed_some _ _ _ _ e1
  obtain ⟨rfl, b2⟩ := readBytes_some _ _ _ _ e2
  obtain ⟨rfl, b3⟩ := readBytes_some _ _ _ _ e3
  obtain ⟨rfl, b4⟩ := readFixed_some _ _ _ _ e4
  obtain ⟨rfl, b5⟩ := readFixed_some _ _ _ _ e5
  obtain ⟨rfl, b6⟩ := readFixed_some _ _ _ _ e6
  exact ⟨by simp only [serHeader, List.append_assoc], b1, b2, b3, b4, b5, b6⟩

end Btc
