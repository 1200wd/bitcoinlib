import BtcModel.Wallet.TxCreate
/-! Helper lemmas for C07: inverting guard chains; coin selection. -/
namespace Btc.TxCreate

/-! ### Guard chains

A guard that raises is passed exactly when its condition is false.  With these two lemmas and
`Except.ok.injEq` (for `Option`: core's `Option.ite_none_left_eq_some`), `simp only [f, …] at h`
turns `h : f x = .ok y`, for `f` a chain of guards, into the conjunction of the negated guards,
in source order, and `value = y`. -/

theorem ite_error_eq_ok {ε α : Type} {c : Prop} [Decidable c] {e : ε} {x : Except ε α} {y : α} :
    (if c then .error e else x) = .ok y ↔ ¬c ∧ x = .ok y := by
  split <;> simp [*]

theorem ite_else_error_eq_ok {ε α : Type} {c : Prop} [Decidable c] {e : ε} {x : Except ε α} {y : α} :
    (if c then x else .error e) = .ok y ↔ c ∧ x = .ok y := by
  split <;> simp [*]

/-- a call fails if it cannot succeed: refusals are shown with the same inversion lemmas as the
facts about results -/
theorem fails_of_not_ok {ε α : Type} {x : Except ε α} (h : ∀ a, x ≠ .ok a) : ∃ e, x = .error e := by
  cases x with
  | error e => exact ⟨e, rfl⟩
  | ok a => exact absurd rfl (h a)

/-! ### Coin selection

What is selected is a sublist of a permutation of the candidate rows, `∃ m, sel.Sublist m ∧
m.Perm cands`: membership, distinctness and the bound by the candidates' sum follow from that one fact; that a
non-empty selection covers the amount is `selectInputs_enough`. -/

theorem sumU_cons (u : Utxo) (l : List Utxo) : sumU (u :: l) = u.value + sumU l := rfl

theorem sublist_sumU_le {a b : List Utxo} (h : a.Sublist b) : sumU a ≤ sumU b := by
  induction h with
  | slnil => exact Nat.le_refl _
  | cons x _ ih => rw [sumU_cons]; exact Nat.le_trans ih (Nat.le_add_left _ _)
  | cons_cons x _ ih => rw [sumU_cons, sumU_cons]; exact Nat.add_le_add_left ih _

theorem perm_sumU {a b : List Utxo} (h : a.Perm b) : sumU a = sumU b := (h.map _).sum_nat

theorem takeUntil_sublist (amount tot : Nat) (l : List Utxo) : (takeUntil amount tot l).Sublist l := by
  fun_induction takeUntil amount tot l
  · exact .slnil
  · exact .cons_cons _ ‹_›
  · exact List.nil_sublist _

theorem lessersOf_subperm (cands : List Utxo) (amount : Nat) (maxUtxos : Option Nat) :
    ∃ m, (lessersOf cands amount maxUtxos).Sublist m ∧ m.Perm cands := by
  -- m = the sorted rows below the amount ++ the other rows
  refine ⟨_ ++ _, List.sublist_append_of_sublist_left ?_,
    ((List.mergeSort_perm _ leConfValDesc).append_right _).trans
      (List.filter_append_perm (fun u => u.value < amount) cands)⟩
  unfold lessersOf
  split
  · split
    · exact .refl _
    · exact List.take_sublist _ _
  · exact .refl _

/-- what `selectInputs` returns, as a rule: one candidate row that covers the amount, nothing, or the accumulated rows
when they cover it -/
@[elab_as_elim]
theorem selectInputs_induct {cands : List Utxo} {amount variance : Nat} {maxUtxos : Option Nat} {motive : List Utxo → Prop}
    (one : ∀ u ∈ cands, amount ≤ u.value → motive [u]) (nil : motive [])
    (acc : amount ≤ sumU (takeUntil amount 0 (lessersOf cands amount maxUtxos)) →
      motive (takeUntil amount 0 (lessersOf cands amount maxUtxos))) :
    motive (selectInputs cands amount variance maxUtxos) := by
  unfold selectInputs
  split
  next u h =>
    have hp := List.find?_some h
    simp only [Bool.and_eq_true, decide_eq_true_eq] at hp
    exact one u (List.mem_of_find?_eq_some h) hp.1
  split
  next u h =>
    exact one u ((List.mergeSort_perm cands leConfValAsc).mem_iff.mp (List.mem_of_find?_eq_some h))
      (by simpa using List.find?_some h)
  by_cases h3 : singleOnly maxUtxos = true
  · rwa [if_pos h3]
  by_cases h4 : sumU (takeUntil amount 0 (lessersOf cands amount maxUtxos)) < amount
  · rwa [if_neg h3, if_pos h4]
  · rw [if_neg h3, if_neg h4]
    exact acc (Nat.le_of_not_lt h4)

theorem selectInputs_subperm (cands : List Utxo) (amount variance : Nat) (maxUtxos : Option Nat) :
    ∃ m, (selectInputs cands amount variance maxUtxos).Sublist m ∧ m.Perm cands := by
  refine selectInputs_induct (fun u hu _ => ⟨cands, List.singleton_sublist.mpr hu, .refl _⟩)
    ⟨cands, List.nil_sublist _, .refl _⟩ fun _ => ?_
  obtain ⟨m, hs, hp⟩ := lessersOf_subperm cands amount maxUtxos
  exact ⟨m, (takeUntil_sublist amount 0 _).trans hs, hp⟩

theorem selectInputs_enough {cands : List Utxo} {amount variance : Nat} {maxUtxos : Option Nat} :
    selectInputs cands amount variance maxUtxos ≠ [] → amount ≤ sumU (selectInputs cands amount variance maxUtxos) :=
  selectInputs_induct (fun _ _ hv _ => Nat.le_add_right_of_le hv) (fun h => absurd rfl h) fun hs _ => hs

end Btc.TxCreate
