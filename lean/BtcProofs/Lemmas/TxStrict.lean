import BtcModel.TxStrict
import BtcProofs.Lemmas.Tx
/-! The strict readers (`TxStrict.lean`) against the serialisers: each is `Strict` with respect to its lax
counterpart and `Reads` every well-formed value.  The round trips of the lax readers follow from these two. -/
namespace Btc

theorem readCsS_strict : Strict readCsS readCs csE := by
  intro bs n r h
  unfold readCsS at h
  repeat' split at h
  all_goals cases h
  rename_i e hc
  exact ⟨hc, e⟩

theorem readCsS_ser : Reads readCsS csE (· < 2^64) := fun n h r => by
  simp [readCsS, readCs_csE n h r]

theorem readVarBytesS_strict : Strict readVarBytesS readVarBytes serVarBytes := by
  intro bs b r h
  unfold readVarBytesS at h
  split at h
  · contradiction
  · rename_i n r1 e
    obtain ⟨rfl, c⟩ := readCsS_strict e
    obtain ⟨rfl, rfl⟩ := readBytes_some _ _ _ _ h
    exact ⟨by rw [serVarBytes, List.append_assoc], by rw [readVarBytes, c]; exact h⟩

theorem readVarBytesS_ser : Reads readVarBytesS serVarBytes (·.length < 2^64) := fun b h r => by
  simp only [readVarBytesS, serVarBytes, List.append_assoc, readCsS_ser _ h, readBytes_append (b := b) rfl]

theorem readInS_strict : Strict readInS readIn serIn := by
  intro bs i r h
  unfold readInS at h
  repeat' split at h
  all_goals cases h
  rename_i txid r1 e1 _ vout r2 e2 _ sc r3 e3 _ sq e4
  obtain ⟨rfl, _⟩ := readBytes_some _ _ _ _ e1
  obtain ⟨rfl, _⟩ := readFixed_some _ _ _ _ e2
  obtain ⟨rfl, c3⟩ := readVarBytesS_strict e3
  obtain ⟨rfl, _⟩ := readFixed_some _ _ _ _ e4
  exact ⟨by simp only [serIn, List.append_assoc], by simp only [readIn, e1, e2, c3, e4]⟩

theorem readInS_ser : Reads readInS serIn TxIn.WF := fun i ⟨h1, h2, h3, h4⟩ r => by
  simp only [readInS, serIn, List.append_assoc, readBytes_append h1, readFixed_leBytes 4 h2, readVarBytesS_ser _ h3,
    readFixed_leBytes 4 h4]

theorem readOutS_strict : Strict readOutS readOut serOut := by
  intro bs o r h
  unfold readOutS at h
  repeat' split at h
  all_goals cases h
  rename_i v r1 e1 _ sc e2
  obtain ⟨rfl, _⟩ := readFixed_some _ _ _ _ e1
  obtain ⟨rfl, c2⟩ := readVarBytesS_strict e2
  exact ⟨by simp only [serOut, List.append_assoc], by simp only [readOut, e1, c2]⟩

theorem readOutS_ser : Reads readOutS serOut TxOut.WF := fun o ⟨h1, h2⟩ r => by
  simp only [readOutS, serOut, List.append_assoc, readFixed_leBytes 8 h1, readVarBytesS_ser _ h2]

theorem readListS_strict {α : Type} {rd rd' : Bytes → Option (α × Bytes)} {ser : α → Bytes} (h : Strict rd rd' ser) :
    Strict (readListS rd) (readList rd') fun l => csE l.length ++ (l.map ser).flatten := by
  intro bs l r hl
  unfold readListS at hl
  split at hl
  · contradiction
  · rename_i n r1 e
    obtain ⟨rfl, c⟩ := readCsS_strict e
    obtain ⟨rfl, rfl, cN⟩ := readN_strict h hl
    exact ⟨by rw [List.append_assoc], by rw [readList, c]; exact cN⟩

theorem readListS_ser {α : Type} {rd : Bytes → Option (α × Bytes)} {ser : α → Bytes} {P : α → Prop} (h : Reads rd ser P) :
    Reads (readListS rd) (fun l => csE l.length ++ (l.map ser).flatten) fun l => l.length < 2^64 ∧ ∀ a ∈ l, P a :=
  fun l ⟨hl, hP⟩ r => by
    simp only [readListS, List.append_assoc, readCsS_ser _ hl, readN_ser h l hP]

theorem readStackS_strict : Strict readStackS readStack serStack := readListS_strict readVarBytesS_strict

theorem readStackS_ser : Reads readStackS serStack stackWF := readListS_ser readVarBytesS_ser

theorem readInsS_strict : Strict (readListS readInS) (readList readIn) serIns := readListS_strict readInS_strict

theorem readOutsS_strict : Strict (readListS readOutS) (readList readOut) serOuts := readListS_strict readOutS_strict

end Btc
