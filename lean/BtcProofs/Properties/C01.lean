import BtcModel.Sighash
import BtcProofs.Properties.C06
/-!
# C01 — Signed digests equal the Bitcoin consensus sighash (legacy and BIP143)

> For every transaction the library can build or parse, the digest it signs and checks for
> input i is the digest Bitcoin consensus defines for that input: the legacy SIGHASH_ALL preimage
> for legacy inputs and the BIP143 preimage for native and P2SH-nested segwit inputs, with the
> right script code, amount, sequence, outpoints, outputs, version and locktime. Hence a
> signature produced by the library is valid for the output being spent on the real network,
> not merely consistent with the library's own verifier.

`legacyPreimage` / `bip143Preimage` are the consensus definitions; the differential run
compares `sha256d` of them with `Transaction.signature_hash` for every input of generated
transactions and verifies every library signature against them with an independent ECDSA.
The theorems below state what the preimages commit to.
-/
namespace Btc.C01

/-- the transaction that the legacy SIGHASH_ALL preimage serialises: every scriptSig emptied,
the script code in place of input `i`'s -/
def txForSig (t : Tx) (i : Nat) (sc : Bytes) : Tx :=
  { t with
    ins := ((List.range t.ins.length).zip t.ins).map fun p =>
      { p.2 with scriptSig := if p.1 = i then sc else [] }
    witness := none }

/-- T1: the legacy SIGHASH_ALL preimage is the witness-stripped serialisation of `txForSig`
followed by the 4-byte hash type — for every number of inputs and outputs. -/
theorem legacyPreimage_all (t : Tx) (i : Nat) (sc : Bytes) (hi : i < t.ins.length) :
    legacyPreimage t i sc SIGHASH_ALL = some (serLegacy (txForSig t i sc) ++ leBytes SIGHASH_ALL 4) := by
  unfold legacyPreimage
  rw [if_neg (by omega)]
  simp only [SIGHASH_ALL, SIGHASH_SINGLE, SIGHASH_NONE, Nat.reduceMod, Nat.reduceDiv, Nat.reduceEqDiff, false_and, or_self,
    and_false, if_false]
  simp only [serLegacy, txForSig, serIns, serOuts, List.length_map, List.length_zip, List.length_range, Nat.min_self,
    List.flatMap_def, List.map_map]
  rfl

/-- T2 (injectivity of what is committed, legacy): two well-formed signing contexts with the same
SIGHASH_ALL preimage have the same version, outpoints, sequences, script code, outputs and
locktime. -/
theorem legacy_commits (t t' : Tx) (i i' : Nat) (sc sc' : Bytes)
    (hi : i < t.ins.length) (hi' : i' < t'.ins.length)
    (hw : (txForSig t i sc).WF) (hw' : (txForSig t' i' sc').WF)
    (h : legacyPreimage t i sc SIGHASH_ALL = legacyPreimage t' i' sc' SIGHASH_ALL) :
    txForSig t i sc = txForSig t' i' sc' := by
  rw [legacyPreimage_all t i sc hi, legacyPreimage_all t' i' sc' hi'] at h
  have p1 := C06.parseTx_serTx _ hw (leBytes SIGHASH_ALL 4)
  have p2 := C06.parseTx_serTx _ hw' (leBytes SIGHASH_ALL 4)
  rw [C06.serTx_legacy _ rfl] at p1 p2
  rw [Option.some.inj h, p2] at p1
  exact (Prod.mk.inj (Option.some.inj p1)).1.symm

/-- the fields of `txForSig` that belong to the original transaction -/
theorem txForSig_fields (t : Tx) (i : Nat) (sc : Bytes) :
    (txForSig t i sc).version = t.version ∧ (txForSig t i sc).outs = t.outs ∧
    (txForSig t i sc).locktime = t.locktime ∧
    (txForSig t i sc).ins.map (fun x => (x.prevTxid, x.vout, x.sequence)) =
      t.ins.map (fun x => (x.prevTxid, x.vout, x.sequence)) := by
  refine ⟨rfl, rfl, rfl, ?_⟩
  have h : ((List.range t.ins.length).zip t.ins).map Prod.snd = t.ins := List.map_snd_zip (by simp)
  conv => rhs; rw [← h]
  simp only [txForSig, List.map_map]
  rfl

/-- T3 (BIP143 layout): the preimage has the BIP143 field layout, with the amount and the
sequence of the signed input and the three inner hashes, for SIGHASH_ALL. -/
theorem bip143Preimage_all (H : Bytes → Bytes) (t : Tx) (i : Nat) (sc : Bytes) (amount : Nat) (inp : TxIn)
    (hi : t.ins[i]? = some inp) :
    bip143Preimage H t i sc amount SIGHASH_ALL = some (
      leBytes t.version 4 ++ H (t.ins.flatMap fun x => x.prevTxid ++ leBytes x.vout 4) ++
      H (t.ins.flatMap fun x => leBytes x.sequence 4) ++ inp.prevTxid ++ leBytes inp.vout 4 ++
      serVarBytes sc ++ leBytes amount 8 ++ leBytes inp.sequence 4 ++ H (t.outs.flatMap serOut) ++
      leBytes t.locktime 4 ++ leBytes SIGHASH_ALL 4) := by
  -- for a literal hash type every condition of the definition is decided: the layout is what it evaluates to
  unfold bip143Preimage
  rw [hi]
  rfl

/-- the amount is committed under every hash type: the fields before and after it are the same on both sides,
whatever `ht` selects for the three hashes, and its own field has a fixed width -/
theorem bip143_amount_inj {H : Bytes → Bytes} {t : Tx} {i : Nat} {sc : Bytes} {a a' ht : Nat} {inp : TxIn}
    (hi : t.ins[i]? = some inp) (ha : a < 2^64) (ha' : a' < 2^64)
    (h : bip143Preimage H t i sc a ht = bip143Preimage H t i sc a' ht) : a = a' := by
  unfold bip143Preimage at h
  rw [hi] at h
  simp only [Option.some.injEq, List.append_cancel_right_eq, List.append_cancel_left_eq] at h
  have e := congrArg leVal h
  rwa [leVal_leBytes, leVal_leBytes, Nat.mod_eq_of_lt ha, Nat.mod_eq_of_lt ha'] at e

/-- the amount is committed — changing it changes the preimage (for any `H`). -/
theorem bip143_commits_amount (H : Bytes → Bytes) (t : Tx) (i : Nat) (sc : Bytes) (a a' : Nat) (inp : TxIn)
    (hi : t.ins[i]? = some inp) (ha : a < 2^64) (ha' : a' < 2^64)
    (h : bip143Preimage H t i sc a SIGHASH_ALL = bip143Preimage H t i sc a' SIGHASH_ALL) : a = a' :=
  bip143_amount_inj hi ha ha' h

/-- T4 (BIP143, SIGHASH_NONE): no output and no other input's sequence is committed — the
sequence hash and the output hash are 32 zero bytes. -/
theorem bip143Preimage_none (H : Bytes → Bytes) (t : Tx) (i : Nat) (sc : Bytes) (amount : Nat) (inp : TxIn)
    (hi : t.ins[i]? = some inp) :
    bip143Preimage H t i sc amount SIGHASH_NONE = some (
      leBytes t.version 4 ++ H (t.ins.flatMap fun x => x.prevTxid ++ leBytes x.vout 4) ++
      List.replicate 32 0 ++ inp.prevTxid ++ leBytes inp.vout 4 ++
      serVarBytes sc ++ leBytes amount 8 ++ leBytes inp.sequence 4 ++ List.replicate 32 0 ++
      leBytes t.locktime 4 ++ leBytes SIGHASH_NONE 4) := by
  unfold bip143Preimage
  rw [hi]
  rfl

/-- T5 (BIP143, SIGHASH_SINGLE): exactly the output with the index of the input is committed
(32 zero bytes when there is none); the other inputs' sequences are not. -/
theorem bip143Preimage_single (H : Bytes → Bytes) (t : Tx) (i : Nat) (sc : Bytes) (amount : Nat) (inp : TxIn)
    (hi : t.ins[i]? = some inp) :
    bip143Preimage H t i sc amount SIGHASH_SINGLE = some (
      leBytes t.version 4 ++ H (t.ins.flatMap fun x => x.prevTxid ++ leBytes x.vout 4) ++
      List.replicate 32 0 ++ inp.prevTxid ++ leBytes inp.vout 4 ++
      serVarBytes sc ++ leBytes amount 8 ++ leBytes inp.sequence 4 ++
      (match t.outs[i]? with | some o => H (serOut o) | none => List.replicate 32 0) ++
      leBytes t.locktime 4 ++ leBytes SIGHASH_SINGLE 4) := by
  unfold bip143Preimage
  rw [hi]
  rfl

/-- T6 (BIP143, ANYONECANPAY | ALL): the other inputs are not committed at all (both input
hashes are zero), all outputs are. -/
theorem bip143Preimage_all_acp (H : Bytes → Bytes) (t : Tx) (i : Nat) (sc : Bytes) (amount : Nat) (inp : TxIn)
    (hi : t.ins[i]? = some inp) :
    bip143Preimage H t i sc amount 0x81 = some (
      leBytes t.version 4 ++ List.replicate 32 0 ++ List.replicate 32 0 ++ inp.prevTxid ++ leBytes inp.vout 4 ++
      serVarBytes sc ++ leBytes amount 8 ++ leBytes inp.sequence 4 ++ H (t.outs.flatMap serOut) ++
      leBytes t.locktime 4 ++ leBytes 0x81 4) := by
  unfold bip143Preimage
  rw [hi]
  rfl

end Btc.C01
