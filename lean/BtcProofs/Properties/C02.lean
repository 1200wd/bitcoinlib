import BtcModel.Verify
/-!
# C02 — Transaction verification is sound and complete for standard inputs

> A transaction signed through the library with the correct private keys verifies, and
> verification succeeds only if every input carries at least the required number of signatures,
> each valid for a distinct listed public key over that input's digest. Changing anything the
> signatures commit to after signing (an output amount or script, an outpoint, a sequence, the
> locktime or version, an input amount for segwit), corrupting a signature, or supplying fewer
> than m signatures or signatures by keys outside the input's key set makes verification fail.

`verifyLoop` is the counting loop of `Input.verify`.  The digest part is C01; the ECDSA part is
C13; here: what acceptance by the loop implies and when it accepts.
-/
namespace Btc.C02

/-- The invariant of the loop as a count: when it accepts from state (s,k,v) with `fuel` keys left, `v`
plus the number of keys in [k, k+fuel) under which some signature verifies reaches m (`p`: any predicate
that holds of those keys). Each step that raises `v` does so for the key `k` it is looking at. -/
theorem loop_sound {m S : Nat} {ok : Nat → Nat → Bool} (p : Nat → Bool)
    (hp : ∀ j x, j < S → ok j x = true → p x = true) {fuel s k v : Nat}
    (h : verifyLoop m S ok fuel s k v = true) : m ≤ v + (List.range' k fuel).countP p := by
  fun_induction verifyLoop m S ok fuel s k v with
  | case1 _ _ _ _ hv => exact Nat.le_add_right_of_le hv
  | case2 => cases h
  | case3 => cases h
  | case4 s k v f hv hs hok ih =>
    rw [List.range'_succ, List.countP_cons_of_pos (hp s k (Nat.not_le.mp hs) hok), ← Nat.add_assoc, Nat.add_right_comm]
    exact ih h
  | case5 s k v f hv hs hok hprev ih =>
    simp only [Bool.and_eq_true, decide_eq_true_eq] at hprev
    rw [List.range'_succ, List.countP_cons_of_pos (hp (s - 1) k (Nat.sub_lt_of_lt (Nat.not_le.mp hs)) hprev.2),
      ← Nat.add_assoc, Nat.add_right_comm]
    exact ih h
  | case6 s k v f hv hs hok hprev ih =>
    have := ih h
    rw [List.range'_succ, List.countP_cons]
    omega

/-- T1 (soundness): acceptance implies at least m **distinct listed key positions**, each with a
signature of the input that verifies under it — for any numbers of keys and signatures. -/
theorem inputVerify_sound (m K S : Nat) (ok : Nat → Nat → Bool) (h : inputVerify m K S ok = true) :
    ∃ ks : List Nat, ks.length ≥ m ∧ ks.Pairwise (· < ·) ∧
      ∀ x ∈ ks, x < K ∧ ∃ j, j < S ∧ ok j x = true := by
  unfold inputVerify at h
  split at h
  · cases h
  · obtain ⟨p, hp⟩ : ∃ p : Nat → Bool, ∀ x, p x = true ↔ ∃ j, j < S ∧ ok j x = true :=
      ⟨fun x => decide _, fun x => decide_eq_true_iff⟩
    have hc := loop_sound p (fun j x hj hok => (hp x).mpr ⟨j, hj, hok⟩) h
    refine ⟨(List.range K).filter p, ?_, List.pairwise_lt_range.filter p, ?_⟩
    · rw [← List.countP_eq_length_filter, List.range_eq_range']
      omega
    · intro x hx
      rw [List.mem_filter, List.mem_range, hp] at hx
      exact hx

/-- T2: without signatures nothing verifies; with no valid (signature, key) pair at all and m ≥ 1
nothing verifies — fewer than m signatures, or signatures by keys outside the key set, fail. -/
theorem no_signatures (m K : Nat) (ok : Nat → Nat → Bool) : inputVerify m K 0 ok = false :=
  if_pos rfl

theorem fewer_than_m_valid_keys (m K S : Nat) (ok : Nat → Nat → Bool) (good : List Nat)
    (hgood : ∀ x, (∃ j, j < S ∧ ok j x = true) → x ∈ good) (hlt : good.length < m) :
    inputVerify m K S ok = false := by
  refine Bool.eq_false_iff.mpr fun hv => ?_
  obtain ⟨ks, hlen, hpw, hmem⟩ := inputVerify_sound m K S ok hv
  have hnd : ks.Nodup := hpw.imp Nat.ne_of_lt
  have := hnd.length_le_of_subset (fun x hx => hgood x (hmem x hx).2)
  omega

theorem no_valid_pair (m K S : Nat) (ok : Nat → Nat → Bool) (hm : 1 ≤ m) (hno : ∀ j x, ok j x = false) :
    inputVerify m K S ok = false :=
  fewer_than_m_valid_keys m K S ok [] (fun x ⟨j, _, hj⟩ => by simp [hno] at hj) hm

/-- Completeness of the loop, for signatures that verify under the keys at the increasing positions `ps`. Further
valid (signature, key) pairs only help: the "previous signature" branch raises the count, and a signature that
verifies under an earlier key than its own leaves the keys of the later ones ahead all the same. State invariant:
the keys not yet visited reach up to `K`; the key of signature `s` is still ahead; the signatures left suffice. -/
theorem loop_complete {m : Nat} {ok : Nat → Nat → Bool} {ps : List Nat}
    (hok : ∀ j (h : j < ps.length), ok j ps[j] = true) (hinc : ps.Pairwise (· < ·)) {K : Nat}
    (hr : ∀ x ∈ ps, x < K) {fuel s k v : Nat} (hfuel : K ≤ k + fuel)
    (hnext : ∀ h : s < ps.length, k ≤ ps[s]) (hcount : m + s ≤ v + ps.length) :
    verifyLoop m ps.length ok fuel s k v = true := by
  fun_induction verifyLoop m ps.length ok fuel s k v with
  | case1 => rfl
  | case2 s k v hv =>
    -- no keys left, but signature s still has its key ahead
    have hs : s < ps.length := by omega
    have := hr _ (List.getElem_mem hs)
    have := hnext hs
    omega
  | case3 => omega
  | case4 s k v f hv hs hk ih =>
    apply ih
    · rwa [Nat.add_right_comm]
    · exact fun hs' => Nat.lt_of_le_of_lt (hnext (Nat.lt_of_succ_lt hs'))
        (List.pairwise_iff_getElem.mp hinc s (s + 1) _ hs' (Nat.lt_succ_self s))
    · rw [Nat.add_right_comm]
      exact Nat.succ_le_succ hcount
  | case5 s k v f hv hs hk hprev ih | case6 s k v f hv hs hk hprev ih =>
    apply ih
    · rwa [Nat.add_right_comm]
    · exact fun hs' => Nat.lt_of_le_of_ne (hnext hs') (fun e => hk (e ▸ hok s hs'))
    · omega

/-- T3 (completeness): if the signatures verify under the keys at the positions `ps`, one each, stored in key order
(the invariant `Transaction.sign` maintains), the input verifies as soon as there are m of them (and at least one) -
whatever else verifies. -/
theorem inputVerify_complete (m K : Nat) (ok : Nat → Nat → Bool) (ps : List Nat)
    (hok : ∀ j (h : j < ps.length), ok j ps[j] = true) (hinc : ps.Pairwise (· < ·)) (hr : ∀ x ∈ ps, x < K)
    (hS : 1 ≤ ps.length) (hm : m ≤ ps.length) : inputVerify m K ps.length ok = true := by
  unfold inputVerify
  rw [if_neg (Nat.ne_of_gt hS)]
  exact loop_complete hok hinc hr (Nat.le_add_left K 0) (fun _ => Nat.zero_le _) (by simpa using hm)

/-- T3 as an equation: signatures by the keys at the positions `ps`, stored in key order, verify
iff there are at least m of them. -/
theorem inputVerify_sorted (m K : Nat) (ps : List Nat) (hm : 1 ≤ m) (hinc : ps.Pairwise (· < ·))
    (hr : ∀ x ∈ ps, x < K) :
    inputVerify m K ps.length (fun j x => ps[j]? == some x) = decide (m ≤ ps.length) := by
  by_cases hle : m ≤ ps.length
  · rw [decide_eq_true hle]
    exact inputVerify_complete m K _ ps (fun j h => by simp [h]) hinc hr (Nat.le_trans hm hle) hle
  · rw [decide_eq_false hle]
    apply fewer_than_m_valid_keys m K _ _ ps
    · rintro x ⟨j, _, hx⟩
      exact List.mem_of_getElem? (beq_iff_eq.mp hx)
    · exact Nat.not_le.mp hle

-- non-vacuity: a 2-of-3 with signatures by keys 0 and 2 is accepted; one signature is not enough
example : inputVerify 2 3 2 (fun j x => (j == 0 && x == 0) || (j == 1 && x == 2)) = true := by decide
example : inputVerify 2 3 1 (fun j x => (j == 0 && x == 0)) = false := by decide

/-- T4 (hash types, repair F101): with the comparison `okTyped` every signature that counts names
the digest that was checked - acceptance implies m distinct key positions, each with a signature
of hash type `h` that is valid under it. -/
theorem typed_sound (m K S h : Nat) (ht : Nat → Nat) (valid : Nat → Nat → Bool)
    (hv : inputVerify m K S (okTyped h ht valid) = true) :
    ∃ ks : List Nat, ks.length ≥ m ∧ ks.Pairwise (· < ·) ∧
      ∀ x ∈ ks, x < K ∧ ∃ j, j < S ∧ ht j = h ∧ valid j x = true := by
  obtain ⟨ks, h1, h2, h3⟩ := inputVerify_sound m K S _ hv
  refine ⟨ks, h1, h2, fun x hx => ?_⟩
  simpa only [okTyped, Bool.and_eq_true, beq_iff_eq] using h3 x hx

/-- Signatures that all carry another hash type byte verify nothing, however valid they
are as ECDSA signatures over the digest that was computed. -/
theorem other_hash_type_never_counts (m K S h : Nat) (ht : Nat → Nat) (valid : Nat → Nat → Bool)
    (hm : 1 ≤ m) (hne : ∀ j, ht j ≠ h) : inputVerify m K S (okTyped h ht valid) = false := by
  apply no_valid_pair m K S _ hm
  intro j x
  simp [okTyped, hne j]

/-- T5 (coinbase exemption, repair F102): when a transaction verifies, every input that is not
typed coinbase passed the signature loop, and an input typed coinbase (all-zero previous
transaction id) is the only input and has the null output number - zeroing the transaction id of
an outpoint does not switch the signature check off. -/
theorem coinbase_exempt_only_alone (ins : List VIn) (hv : txVerify ins = true) :
    ∀ i ∈ ins, (i.coinbaseTyped = true → ins.length = 1 ∧ i.vout = 0xffffffff) ∧
      (i.coinbaseTyped = false → i.sigsOk = true) := by
  intro i hi
  have h := List.all_eq_true.mp hv i hi
  cases hc : i.coinbaseTyped
  · simpa [hc] using h
  · simpa [hc] using h

/-- the hypotheses of T5 are met by a signed single-input transaction and not by the same
transaction with the outpoint's transaction id zeroed (output number 1) -/
example : txVerify [{ coinbaseTyped := false, vout := 1, sigsOk := true }] = true ∧
    txVerify [{ coinbaseTyped := true, vout := 1, sigsOk := true }] = false ∧
    txVerify [{ coinbaseTyped := true, vout := 0xffffffff, sigsOk := true }, { coinbaseTyped := false, vout := 0, sigsOk := true }] = false := by
  decide

/-- a non-positive threshold with at least one signature verifies vacuously in the loop as it is -/
example : inputVerify 0 3 1 (fun _ _ => false) = true := by decide

end Btc.C02
