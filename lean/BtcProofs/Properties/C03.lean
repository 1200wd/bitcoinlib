import BtcModel.Bip32
import Mathlib.Algebra.Module.Basic
import Mathlib.Data.ZMod.Basic
/-!
# C03 — HD key derivation conforms to BIP32; public and private derivation agree

> Child keys derived from any extended key along any path are the keys BIP32 defines: private
> and public derivation commute (the public part of a privately derived non-hardened child equals
> the child derived from the parent's public key), and depth, parent fingerprint, child number and
> chain code are those of the specification. A hardened child can never be obtained from a
> public-only parent: such a request fails instead of returning some other key.

Algebraic core over an abstract group: scalars `ZMod n`, points `P` (a `ZMod n`-module with
generator `G`), arbitrary keyed functions `hmPub` / `hmPrv` standing for HMAC-SHA512 split into
(I_L, I_R), an arbitrary point serialisation `ser` and fingerprint `fp`.  The executable BIP32 of
`BtcModel/Bip32.lean` is the same scheme written over the reference primitives; no theorem links
the two, it is compared with the library on generated seeds and paths (bookkeeping fields included).
-/
namespace Btc.C03

/-- extended private key: scalar, chain code, depth, parent fingerprint, child number -/
structure XPrv (n : ℕ) (C F : Type) where
  k : ZMod n
  c : C
  depth : Nat
  parentFp : F
  child : Nat

/-- extended public key -/
structure XPub (P C F : Type) where
  K : P
  c : C
  depth : Nat
  parentFp : F
  child : Nat

/-- the parameters of BIP32 that are external primitives -/
structure Prims (n : ℕ) (P C S F : Type) where
  G : P
  ser : P → S                           -- ser_P
  fp : P → F                            -- first 4 bytes of HASH160(ser_P)
  hmPub : C → S → Nat → ZMod n × C      -- HMAC-SHA512(c, ser_P(K) || ser32(i)) as (I_L, I_R)
  hmPrv : C → ZMod n → Nat → ZMod n × C -- HMAC-SHA512(c, 0x00 || ser256(k) || ser32(i))

section
variable {n : ℕ} {P C S F : Type} [AddCommGroup P] [Module (ZMod n) P]

def neuter (pr : Prims n P C S F) (x : XPrv n C F) : XPub P C F :=
  ⟨x.k • pr.G, x.c, x.depth, x.parentFp, x.child⟩

/-- CKDpriv (hardened iff i ≥ 2^31) -/
def ckdPriv (pr : Prims n P C S F) (x : XPrv n C F) (i : Nat) : XPrv n C F :=
  let I := if i ≥ 2^31 then pr.hmPrv x.c x.k i else pr.hmPub x.c (pr.ser (x.k • pr.G)) i
  ⟨I.1 + x.k, I.2, x.depth + 1, pr.fp (x.k • pr.G), i⟩

/-- CKDpub; `none` for hardened child numbers -/
def ckdPub (pr : Prims n P C S F) (x : XPub P C F) (i : Nat) : Option (XPub P C F) :=
  if i ≥ 2^31 then none else
    let I := pr.hmPub x.c (pr.ser x.K) i
    some ⟨I.1 • pr.G + x.K, I.2, x.depth + 1, pr.fp x.K, i⟩

def derivePriv (pr : Prims n P C S F) (x : XPrv n C F) (path : List Nat) : XPrv n C F :=
  path.foldl (ckdPriv pr) x

def derivePub (pr : Prims n P C S F) (x : XPub P C F) : List Nat → Option (XPub P C F)
  | [] => some x
  | i :: rest => (ckdPub pr x i).bind fun y => derivePub pr y rest

/-- T1: N(CKDpriv(x, i)) = CKDpub(N(x), i) for every non-hardened i — key, chain code, depth,
parent fingerprint and child number all agree. -/
theorem ckd_commute (pr : Prims n P C S F) (x : XPrv n C F) (i : Nat) (hi : i < 2^31) :
    ckdPub pr (neuter pr x) i = some (neuter pr (ckdPriv pr x i)) := by
  unfold ckdPub ckdPriv neuter
  simp only [Nat.not_le.mpr hi, if_false, add_smul]

/-- T2: a hardened child is never obtained from a public key -/
theorem ckdPub_hardened (pr : Prims n P C S F) (x : XPub P C F) (i : Nat) (hi : 2^31 ≤ i) :
    ckdPub pr x i = none :=
  if_pos hi

/-- A public derivation along a path containing a hardened element fails as a whole. -/
theorem derivePub_hardened (pr : Prims n P C S F) (x : XPub P C F) (path : List Nat)
    (h : ∃ i ∈ path, 2^31 ≤ i) : derivePub pr x path = none := by
  obtain ⟨i, hi, hge⟩ := h
  induction path generalizing x with
  | nil => cases hi
  | cons j rest ih =>
    rw [derivePub]
    rcases List.mem_cons.mp hi with rfl | hi
    · rw [ckdPub_hardened pr x i hge]; rfl
    · cases ckdPub pr x j with
      | none => rfl
      | some y => exact ih y hi

theorem derivePriv_append (pr : Prims n P C S F) (x : XPrv n C F) (p1 p2 : List Nat) :
    derivePriv pr x (p1 ++ p2) = derivePriv pr (derivePriv pr x p1) p2 :=
  List.foldl_append

theorem derivePub_neuter (pr : Prims n P C S F) (x : XPrv n C F) (p : List Nat) (h : ∀ i ∈ p, i < 2^31) :
    derivePub pr (neuter pr x) p = some (neuter pr (derivePriv pr x p)) := by
  induction p generalizing x with
  | nil => rfl
  | cons i rest ih =>
    rw [derivePub, ckd_commute pr x i (h i List.mem_cons_self)]
    exact ih (ckdPriv pr x i) fun j hj => h j (List.mem_cons_of_mem i hj)

/-- T3 (any split point, unbounded depth): deriving privately along p₁ ++ p₂ and neutering equals
deriving privately along p₁, neutering, and deriving publicly along p₂ — for every non-hardened p₂. -/
theorem derive_split (pr : Prims n P C S F) (x : XPrv n C F) (p1 p2 : List Nat) (h2 : ∀ i ∈ p2, i < 2^31) :
    derivePub pr (neuter pr (derivePriv pr x p1)) p2 = some (neuter pr (derivePriv pr x (p1 ++ p2))) := by
  rw [derivePriv_append, derivePub_neuter pr _ p2 h2]

/-- bookkeeping: depth grows by one per step; the child number is the requested one -/
theorem ckdPriv_fields (pr : Prims n P C S F) (x : XPrv n C F) (i : Nat) :
    (ckdPriv pr x i).depth = x.depth + 1 ∧ (ckdPriv pr x i).child = i ∧
    (ckdPriv pr x i).parentFp = pr.fp (x.k • pr.G) := ⟨rfl, rfl, rfl⟩

theorem derivePriv_depth (pr : Prims n P C S F) (x : XPrv n C F) (path : List Nat) :
    (derivePriv pr x path).depth = x.depth + path.length := by
  induction path generalizing x with
  | nil => rfl
  | cons i rest ih =>
    rw [show derivePriv pr x (i :: rest) = derivePriv pr (ckdPriv pr x i) rest from rfl, ih,
      (ckdPriv_fields pr x i).1, List.length_cons]
    exact Nat.add_right_comm ..

end

/-! ## Path spellings (`BtcModel/Bip32.lean` `parsePathItem`, compared with `HDKey.subkey_for_path` on every run)

"every spelling of hardened markers (' h H p P)": the five markers denote the same child number, which is the number
before the marker plus 2^31. -/

def markers : List Char := ['\'', 'h', 'H', 'p', 'P']

theorem digit_not_marker {c : Char} (h : c.isDigit = true) : c ∉ markers := by
  intro hm
  have hmark : ∀ m ∈ markers, m.isDigit = false := by decide
  rw [hmark c hm] at h
  cases h

/-- the value of an unmarked item -/
def plainValue (ds : List Char) : Option Nat :=
  let n := ds.foldl (fun a d => a * 10 + (d.toNat - 48)) 0
  if n < 2^32 then some n else none

theorem parse_plain (ds : List Char) (hne : ds ≠ []) (hd : ds.all Char.isDigit = true) :
    parsePathItem (String.ofList ds) = plainValue ds := by
  have hnm : ds.getLast hne ∉ markers :=
    digit_not_marker (List.all_eq_true.mp hd _ (List.getLast_mem hne))
  simp only [markers] at hnm
  simp [parsePathItem, plainValue, List.getLast?_eq_some_getLast hne, hnm, hne, hd]

/-- T: a hardened marker — in any of its five spellings — adds exactly 2^31 to the number before it, and numbers
from 2^31 on cannot be hardened -/
theorem parse_hardened (ds : List Char) (hne : ds ≠ []) (hd : ds.all Char.isDigit = true) (c : Char) (hc : c ∈ markers) :
    parsePathItem (String.ofList (ds ++ [c])) =
      (let n := ds.foldl (fun a d => a * 10 + (d.toNat - 48)) 0
       if n < 2^31 then some (n + 2^31) else none) := by
  simp only [markers] at hc
  simp [parsePathItem, hc, hne, hd]

/-- Every spelling of the hardened marker denotes the same child number. -/
theorem spelling_independent (ds : List Char) (hne : ds ≠ []) (hd : ds.all Char.isDigit = true) (c c' : Char)
    (hc : c ∈ markers) (hc' : c' ∈ markers) :
    parsePathItem (String.ofList (ds ++ [c])) = parsePathItem (String.ofList (ds ++ [c'])) := by
  rw [parse_hardened ds hne hd c hc, parse_hardened ds hne hd c' hc']

example : parsePathItem "44'" = some (44 + 2^31) ∧ parsePathItem "44h" = some (44 + 2^31) ∧ parsePathItem "2147483648" = some (2^31)
    ∧ parsePathItem "2147483648'" = none ∧ parsePathItem "'" = none ∧ parsePathItem "4x" = none := by decide +kernel

end Btc.C03
