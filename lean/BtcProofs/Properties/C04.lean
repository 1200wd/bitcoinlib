import BtcModel.KeyLogic
import BtcModel.Gen.Networks
import BtcProofs.Lemmas.Bytes
import Mathlib.Data.ZMod.Basic
import Mathlib.Algebra.Field.ZMod
/-!
# C04 — Private key -> public key -> address mapping is exact; invalid keys are refused

> For every valid private key the library reports the secp256k1 public point of that scalar, with
> compressed and uncompressed forms that describe the same point, and the addresses it derives are
> exactly the standard encodings of that key's hash for the chosen network, script type and
> encoding. Values that are not keys (scalars outside [1, n-1], points not on the curve) are
> refused instead of producing a key object and an address nobody can spend from.

Decision logic of key validation (`BtcModel/KeyLogic.lean`, the code the driver runs) and table
theorems about the generated network table.  Point multiplication and the hash functions are
executable reference code compared with the library on every run.
-/
namespace Btc.C04

theorem onCurveP_iff {p x y : Nat} :
    onCurveP p x y = true ↔ x < p ∧ y < p ∧ y * y % p = (x * x % p * x + 7) % p := by
  simp [onCurveP, and_assoc]

theorem acceptPoint_eq_some_iff {p x y : Nat} {odd : Bool} {q : Nat × Nat} :
    acceptPoint p x y odd = some q ↔ (onCurveP p x y = true ∧ (y % 2 == 1) = odd) ∧ (x, y) = q := by
  simp [acceptPoint]

theorem decompressWith_eq_some {sqrt : Nat → Option Nat} {p x : Nat} {odd : Bool} {q : Nat × Nat}
    (h : decompressWith sqrt p odd x = some q) : q.1 = x ∧ onCurveP p q.1 q.2 = true ∧ (q.2 % 2 == 1) = odd := by
  unfold decompressWith at h
  split at h
  · cases h
  · split at h
    · cases h
    · obtain ⟨⟨hc, hpar⟩, rfl⟩ := acceptPoint_eq_some_iff.mp h
      exact ⟨rfl, hc, hpar⟩

/-- T1 (unconditional, for *any* square-root routine): whatever `decodePubWith` accepts is a point
on the curve with both coordinates below p. -/
theorem decodePub_sound (sqrt : Nat → Option Nat) (p : Nat) (b : Bytes) (x y : Nat)
    (h : decodePubWith sqrt p b = some (x, y)) : onCurveP p x y = true := by
  unfold decodePubWith at h
  split at h
  · cases h
  -- the conditionals by their inversion lemmas: `split at h` simplifies all of `h`, the inner ones too, in both branches
  · rcases ite_eq_iff.mp h with ⟨_, h⟩ | ⟨_, h⟩
    · exact (decompressWith_eq_some h).2.1
    · obtain ⟨_, h⟩ := Option.ite_none_right_eq_some.mp h
      obtain ⟨hc, h⟩ := Option.ite_none_right_eq_some.mp h
      cases h
      exact hc

theorem decodePubWith_compressed (sqrt : Nat → Option Nat) (p : Nat) {pre : Byte} {rest : Bytes}
    (hp : pre = 2 ∨ pre = 3) (hl : rest.length = 32) :
    decodePubWith sqrt p (pre :: rest) = decompressWith sqrt p (pre == 3) (beVal rest) := by
  have hcond : ((pre == 2 || pre == 3) && rest.length == 32) = true := by
    rw [hl]
    rcases hp with rfl | rfl <;> rfl
  rw [decodePubWith, if_pos hcond]

/-- For compressed encodings the parity of y is the one the prefix states. -/
theorem decodePub_parity (sqrt : Nat → Option Nat) (p : Nat) (pre : Byte) (rest : Bytes) (x y : Nat)
    (hp : pre = 2 ∨ pre = 3) (hl : rest.length = 32)
    (h : decodePubWith sqrt p (pre :: rest) = some (x, y)) : (y % 2 == 1) = (pre == 3) := by
  rw [decodePubWith_compressed sqrt p hp hl] at h
  exact (decompressWith_eq_some h).2.2

/-- T2: a private key is accepted exactly when it is a scalar in [1, n-1] -/
theorem secretOk_iff (d : Nat) : secretOk d = true ↔ 1 ≤ d ∧ d < curveN := by
  unfold secretOk; simp

example : secretOk 0 = false ∧ secretOk curveN = false ∧ secretOk (curveN - 1) = true ∧ secretOk 1 = true := by decide

/-- decoding an uncompressed encoding is the curve check, for any modulus and any pair of numbers that fit 32 bytes:
what is off the curve is refused -/
theorem decodePubWith_serU (sqrt : Nat → Option Nat) (p : Nat) (q : Nat × Nat) (hx : q.1 < 256 ^ 32) (hy : q.2 < 256 ^ 32) :
    decodePubWith sqrt p (serU q) = if onCurveP p q.1 q.2 then some q else none := by
  have hlen : (beBytes q.1 32 ++ beBytes q.2 32).length = 64 := by
    rw [List.length_append, beBytes_length, beBytes_length]
  rw [serU, decodePubWith, hlen, List.take_left' (beBytes_length q.1 32), List.drop_left' (beBytes_length q.1 32),
    beVal_beBytes hx, beVal_beBytes hy]
  rfl

theorem curveP_le : curveP ≤ 256 ^ 32 := by decide

/-- T3: the uncompressed encoding of an on-curve point decodes to that point (any sqrt routine). -/
theorem decodePub_serU (sqrt : Nat → Option Nat) (q : Nat × Nat) (h : onCurveP curveP q.1 q.2 = true) :
    decodePubWith sqrt curveP (serU q) = some q := by
  obtain ⟨hx, hy, _⟩ := onCurveP_iff.mp h
  rw [decodePubWith_serU sqrt curveP q (hx.trans_le curveP_le) (hy.trans_le curveP_le), if_pos h]

theorem decodePubWith_serC (sqrt : Nat → Option Nat) (p : Nat) (q : Nat × Nat) (hx : q.1 < 256 ^ 32) :
    decodePubWith sqrt p (serC q) = decompressWith sqrt p (q.2 % 2 == 1) q.1 := by
  rw [serC]
  rcases Nat.mod_two_eq_zero_or_one q.2 with h2 | h2
  · rw [if_pos h2, decodePubWith_compressed sqrt p (Or.inl rfl) (beBytes_length ..), beVal_beBytes hx, h2]; rfl
  · rw [if_neg (Nat.mod_two_ne_zero.mpr h2), decodePubWith_compressed sqrt p (Or.inr rfl) (beBytes_length ..), beVal_beBytes hx, h2]; rfl

/-- in the field `ZMod p` the square roots of y² are y and -y -/
theorem root_unique {p : Nat} [Fact p.Prime] {r y : Nat} (hr : r < p) (hy : y < p)
    (h : r * r % p = y * y % p) : r = y ∨ r + y = p := by
  have hz : (r : ZMod p) * r = (y : ZMod p) * y := by
    rw [← Nat.cast_mul, ← Nat.cast_mul, ZMod.natCast_eq_natCast_iff']
    exact h
  rcases mul_self_eq_mul_self_iff.mp hz with h1 | h1
  · exact Or.inl (((ZMod.natCast_eq_natCast_iff r y p).mp h1).eq_of_lt_of_lt hr hy)
  · have hd : p ∣ r + y := by
      rw [← ZMod.natCast_eq_zero_iff, Nat.cast_add, h1, neg_add_cancel]
    by_cases h0 : r + y = 0
    · left
      omega
    · right
      exact Nat.eq_of_dvd_of_lt_two_mul h0 hd (Nat.two_mul p ▸ Nat.add_lt_add hr hy)

/-- p odd: of the two roots r and p - r exactly one has the parity of y -/
theorem pickRoot_of_sq {p : Nat} [Fact p.Prime] (hodd : p % 2 = 1) {r y : Nat} (hr : r < p) (hy : y < p)
    (h : r * r % p = y * y % p) : pickRoot p r (y % 2 == 1) = y := by
  rcases root_unique hr hy h with rfl | hsum
  · exact if_pos (beq_self_eq_true _)
  · have hpar : ¬ (r % 2 = 1 ↔ y % 2 = 1) := by omega
    rw [pickRoot, if_neg (by rwa [beq_iff_eq, beq_eq_beq]), ← hsum, Nat.add_sub_cancel_left]

theorem decompressWith_onCurve (sqrt : Nat → Option Nat) (p : Nat) [Fact p.Prime] (hodd : p % 2 = 1)
    (hsqrt : ∀ a r0, r0 < p → r0 * r0 % p = a → ∃ r, sqrt a = some r ∧ r < p ∧ r * r % p = a)
    {x y : Nat} (h : onCurveP p x y = true) :
    decompressWith sqrt p (y % 2 == 1) x = some (x, y) := by
  obtain ⟨hx, hy, hc⟩ := onCurveP_iff.mp h
  obtain ⟨r, hr1, hr2, hr3⟩ := hsqrt _ y hy hc
  rw [decompressWith, if_neg (Nat.not_le.mpr hx), hr1]
  simp only
  rw [pickRoot_of_sq hodd hr2 hy (by rw [hr3, hc])]
  exact acceptPoint_eq_some_iff.mpr ⟨⟨h, rfl⟩, rfl⟩

/-- T4: with a square-root routine that returns *a* root of every square, and p an odd prime, the
compressed encoding of an on-curve point decodes to that same point — compressed and uncompressed
forms describe one point.  (The hypothesis `q.2 ≠ 0` is not needed: `decompressWith_onCurve` has none.) -/
theorem decodePub_serC (sqrt : Nat → Option Nat) [Fact curveP.Prime]
    (hsqrt : ∀ a r0, r0 < curveP → r0 * r0 % curveP = a → ∃ r, sqrt a = some r ∧ r < curveP ∧ r * r % curveP = a)
    (q : Nat × Nat) (h : onCurveP curveP q.1 q.2 = true) (hy0 : q.2 ≠ 0) :
    decodePubWith sqrt curveP (serC q) = some q := by
  rw [decodePubWith_serC sqrt curveP q ((onCurveP_iff.mp h).1.trans_le curveP_le)]
  exact decompressWith_onCurve sqrt curveP (by decide) hsqrt h

/-! ## Table theorems: the generated network table (re-checked whenever networks.json changes) -/

def netOf (name : String) : Option Gen.NetRec := Gen.networks.find? (·.name == name)

/-- published version bytes / HRPs of the four main chains -/
theorem bitcoin_prefixes : (netOf "bitcoin").map (fun n => (n.prefixAddress, n.prefixP2sh, n.bech32, n.prefixWif)) =
    some ([0x00], [0x05], "bc", [0x80]) := by decide +kernel
theorem testnet_prefixes : (netOf "testnet").map (fun n => (n.prefixAddress, n.prefixP2sh, n.bech32, n.prefixWif)) =
    some ([0x6f], [0xc4], "tb", [0xef]) := by decide +kernel
theorem litecoin_prefixes : (netOf "litecoin").map (fun n => (n.prefixAddress, n.prefixP2sh, n.bech32, n.prefixWif)) =
    some ([0x30], [0x32], "ltc", [0xb0]) := by decide +kernel
theorem dogecoin_prefixes : (netOf "dogecoin").map (fun n => (n.prefixAddress, n.prefixP2sh, n.prefixWif)) =
    some ([0x1e], [0x16], [0x9e]) := by decide +kernel

/-- within every network the P2PKH and P2SH version bytes differ (an address never reads as both) -/
theorem p2pkh_p2sh_distinct : Gen.networks.all (fun n => n.prefixAddress != n.prefixP2sh) = true := by decide +kernel

end Btc.C04
