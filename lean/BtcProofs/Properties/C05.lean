import BtcModel.Address
import BtcModel.Gen.Networks
import BtcProofs.Lemmas.Bytes
/-!
# C05 — Address <-> locking script mapping is standard and mutually inverse

> For every standard destination (P2PKH, P2SH, P2WPKH, P2WSH, P2TR; every supported network) an
> output built from an address carries exactly the standard locking script committing to that
> address's payload, and a standard locking script is reported with exactly the corresponding
> address and type; the two directions are inverse to each other. An address belonging to a
> different network than the transaction is refused rather than silently re-interpreted.

`lockScript` / `classifyScript` are the standard templates (consensus `IsPayToScriptHash`,
`IsWitnessProgram`, P2PKH); with the address codecs of C11 they give the two directions.
-/
namespace Btc.C05

theorem witnessOp_toNat (v : Nat) (hv : v ≤ 16) :
    (witnessOp v).toNat = if v = 0 then 0 else 0x50 + v := by
  unfold witnessOp
  split
  · rfl
  · exact toNat_ofNat_lt (by omega)

theorem witnessVersion_witnessOp (v : Nat) (hv : v ≤ 16) : witnessVersion (witnessOp v) = some v := by
  unfold witnessVersion
  rw [witnessOp_toNat v hv]
  by_cases hz : v = 0
  · rw [if_pos hz, if_pos rfl, hz]
  · rw [if_neg hz, if_neg (by omega), if_pos (by omega), Nat.add_sub_cancel_left]

theorem witnessOp_witnessVersion (op : Byte) (v : Nat) (h : witnessVersion op = some v) : witnessOp v = op := by
  unfold witnessVersion at h
  by_cases h0 : op.toNat = 0
  · rw [if_pos h0] at h
    cases h
    exact UInt8.toNat_inj.mp h0.symm
  · rw [if_neg h0] at h
    obtain ⟨hr, h⟩ := Option.ite_none_right_eq_some.mp h
    -- not `cases h`: it first tries `v =?= op.toNat - 0x50` by unfolding the subtraction, eighty steps
    obtain rfl := Option.some.inj h
    have hlt : 0x50 < op.toNat := hr.1
    unfold witnessOp
    rw [if_neg (Nat.sub_ne_zero_of_lt hlt), Nat.add_sub_cancel' (Nat.le_of_lt hlt)]
    exact UInt8.ofNat_toNat

/-- T1: classify ∘ lockScript = id on every well-formed destination: all 20-byte hashes, all
witness versions 0..16 and program lengths 2..40. -/
theorem classify_lockScript (d : Dest) (h : d.WF) : classifyScript (lockScript d) = some d := by
  cases d with
  | p2pkh hh | p2sh hh =>
    simp only [Dest.WF] at h
    simp [classifyScript, lockScript, h, List.take_left' h, List.drop_left' h]
  | witness v prog =>
    obtain ⟨hv, h2, h40, h0⟩ := h
    have hver := witnessVersion_witnessOp v hv
    -- a version opcode is not the first byte of the P2PKH or the P2SH template
    have hne (b : Byte) (hb : witnessVersion b = none) : witnessOp v ≠ b := fun hc => by
      rw [hc, hb] at hver
      cases hver
    have hlen : (UInt8.ofNat prog.length).toNat = prog.length := toNat_ofNat_lt (by omega)
    unfold classifyScript lockScript
    rw [if_neg fun hc => hne 0x76 (by decide) (List.cons.inj hc.2.1).1,
      if_neg fun hc => hne 0xa9 (by decide) (List.cons.inj hc.2.1).1]
    simp only [List.cons_append, List.nil_append, hver, hlen]
    rw [if_pos ⟨trivial, h2, h40, h0⟩]

/-- T2: a script that classifies as a destination *is* that destination's standard script — no
second script is read as the same address. -/
theorem lockScript_of_classify (s : Bytes) (d : Dest) (h : classifyScript s = some d) : lockScript d = s := by
  unfold classifyScript at h
  split at h
  · rename_i hc
    cases h
    rw [lockScript, ← hc.2.1, ← hc.2.2]
    exact take_mid_drop s 3 20
  · split at h
    · rename_i hc
      cases h
      rw [lockScript, ← hc.2.1, ← hc.2.2]
      exact take_mid_drop s 2 20
    · split at h
      · rename_i op len prog _ _
        split at h
        · cases h
        · rename_i v hv
          obtain ⟨hc, h⟩ := Option.ite_none_right_eq_some.mp h
          cases h
          rw [lockScript, ← hc.1, UInt8.ofNat_toNat, witnessOp_witnessVersion op v hv]
          rfl
      · cases h

/-- the witness version is visible in the script: different versions give different scripts
(F15: the pre-fix library wrote v0 / v1 scripts for other versions) -/
theorem witness_version_committed (v v' : Nat) (prog : Bytes) (hv : v ≤ 16) (hv' : v' ≤ 16)
    (h : lockScript (.witness v prog) = lockScript (.witness v' prog)) : v = v' := by
  have hop : witnessOp v = witnessOp v' := (List.cons.inj h).1
  have hver := witnessVersion_witnessOp v hv
  rw [hop, witnessVersion_witnessOp v' hv'] at hver
  exact (Option.some.inj hver).symm

/-- in the generated network table the Bech32 prefix `bc` belongs to `bitcoin` alone (other prefixes
are shared: `tb` by testnet, testnet4 and signet, `ltc` by litecoin and litecoin_legacy) -/
theorem bitcoin_hrp_unique :
    (Gen.networks.filter (fun n => n.bech32 == "bc")).map (·.name) = ["bitcoin"] := by decide +kernel

example : (Dest.witness 8 (List.replicate 20 7)).WF := by decide
example : lockScript (.witness 8 [1, 2]) = [0x58, 0x02, 1, 2] := by decide

end Btc.C05
