import BtcModel.Tx
import BtcModel.Block
import BtcProofs.Lemmas.Tx
import BtcProofs.Lemmas.TxStrict
/-!
# C06 — Transaction and block serialization round-trips byte-for-byte; ids are exact

> Parsing any well-formed serialized transaction, legacy or segwit, and serializing it again
> reproduces the same bytes, and its reported id is the double-SHA256 of the witness-stripped
> serialization; a transaction built through the API serializes to bytes an independent parser
> reads back to the same fields. Likewise a block's header fields, hash, target, transaction
> count and each contained transaction id are recovered exactly, by either of the library's
> block transaction readers, and re-serialization is byte-identical.

The theorems are about the consensus serialisation `serTx` / `serBlock` and the independent
parser `parseTx` / `parseBlock` of the model; the differential run ties the library's
`Transaction.parse`, `raw()`, `txid`, `Block.parse*`, `serialize()` to them.

"Well-formed serialized transaction" = a byte string the strict reader `parseTxS` accepts (`parseTx` with
CompactSize counts in shortest form only).  Both directions are proved for the strict readers (`Strict`, `Reads`
of `Lemmas/Tx.lean`); `parseTx` and `parseBlock` inherit theirs because the strict readers refine them.
-/
namespace Btc.C06

theorem parseTxS_strict : Strict parseTxS parseTx serTx := by
  intro bs t r h
  unfold parseTxS at h
  split at h
  · contradiction
  rename_i ver r0 e0
  obtain ⟨rfl, _⟩ := readFixed_some _ _ _ _ e0
  cases hseg : isSegwitMarker r0 with
  | false =>
    simp only [hseg, Bool.false_eq_true, if_false] at h
    repeat' split at h
    all_goals cases h
    rename_i ins r2 eI _ outs r3 eO _ lt eL
    obtain ⟨rfl, cI⟩ := readInsS_strict eI
    obtain ⟨rfl, cO⟩ := readOutsS_strict eO
    obtain ⟨rfl, _⟩ := readFixed_some _ _ _ _ eL
    exact ⟨by simp only [serTx, serLegacy, List.append_assoc],
      by simp only [parseTx, e0, hseg, cI, cO, eL, Bool.false_eq_true, if_false]⟩
  | true =>
    obtain ⟨r1, rfl⟩ := isSegwitMarker_eq_true hseg
    simp only [hseg, if_true, List.drop_succ_cons, List.drop_zero] at h
    repeat' split at h
    all_goals cases h
    rename_i ins r2 eI _ outs r3 eO _ ws r4 eW _ lt eL
    obtain ⟨rfl, cI⟩ := readInsS_strict eI
    obtain ⟨rfl, cO⟩ := readOutsS_strict eO
    obtain ⟨rfl, _, cW⟩ := readN_strict readStackS_strict eW
    obtain ⟨rfl, _⟩ := readFixed_some _ _ _ _ eL
    exact ⟨by simp only [serTx, List.append_assoc, List.cons_append, List.nil_append],
      by simp only [parseTx, e0, hseg, cI, cO, cW, eL, if_true, List.drop_succ_cons, List.drop_zero]⟩

/-- T9: the strict reader accepts every serialisation of a well-formed transaction — any number of inputs, outputs,
witness items, any script sizes below 2^64 — and leaves the rest of the stream untouched (so T7 is about all of
them, and only non-canonical counts are excluded) -/
theorem parseTxS_serTx (t : Tx) (h : t.WF) (r : Bytes) : parseTxS (serTx t ++ r) = some (t, r) := by
  obtain ⟨ver, ins, outs, wit, lt⟩ := t
  obtain ⟨hv, hl, hni, hno, hins, houts, hw⟩ := h
  have hI : ∀ r, readListS readInS (serIns ins ++ r) = some (ins, r) := readListS_ser readInS_ser ins ⟨hni, hins⟩
  have hO : ∀ r, readListS readOutS (serOuts outs ++ r) = some (outs, r) := readListS_ser readOutS_ser outs ⟨hno, houts⟩
  cases wit with
  | none =>
    simp only [parseTxS, serTx, serLegacy, List.append_assoc, readFixed_leBytes 4 hv, isSegwitMarker_serIns hw hni,
      Bool.false_eq_true, if_false, hI, hO, readFixed_leBytes 4 hl]
  | some ws =>
    obtain ⟨hwl, hws⟩ := hw
    have hW := readN_ser readStackS_ser ws hws
    rw [hwl] at hW
    simp only [parseTxS, serTx, List.append_assoc, readFixed_leBytes 4 hv, List.cons_append, List.nil_append,
      isSegwitMarker, if_true, List.drop_succ_cons, List.drop_zero, hI, hO, hW, readFixed_leBytes 4 hl]

/-- T7: **for every byte string**, whatever the strict reader accepts re-serialises to exactly the
bytes that were read - legacy or segwit, any counts, any script and witness item sizes - and the rest of
the stream is what the reader says it left. -/
theorem serTx_parseTxS (bs : Bytes) (t : Tx) (r : Bytes) (h : parseTxS bs = some (t, r)) : serTx t ++ r = bs :=
  (parseTxS_strict h).1

/-- T8: the strict reader refines the reader that is run against the library: wherever it accepts, `parseTx`
returns the same transaction and the same rest. -/
theorem parseTxS_refines (bs : Bytes) (x : Tx × Bytes) (h : parseTxS bs = some x) : parseTx bs = some x :=
  (parseTxS_strict (a := x.1) (r := x.2) h).2

/-- T1: the parser reads back every well-formed transaction and leaves the rest of the stream untouched. -/
theorem parseTx_serTx (t : Tx) (h : t.WF) (r : Bytes) : parseTx (serTx t ++ r) = some (t, r) :=
  parseTxS_refines _ _ (parseTxS_serTx t h r)

/-- T2: hence parse ∘ serialise ∘ parse is stable and re-serialisation of what was parsed from a
canonical serialisation is byte-identical. -/
theorem reserialize_identical (t : Tx) (h : t.WF) (r : Bytes) :
    ∃ t' r', parseTx (serTx t ++ r) = some (t', r') ∧ serTx t' ++ r' = serTx t ++ r :=
  ⟨t, r, parseTx_serTx t h r, rfl⟩

/-- T3: the id commits to the witness-stripped serialisation only: two transactions that differ
only in their witness data have the same `serLegacy` (hence the same txid for any hash). -/
theorem serLegacy_ignores_witness (t : Tx) (w : Option (List (List Bytes))) :
    serLegacy { t with witness := w } = serLegacy t := rfl

theorem serTx_legacy (t : Tx) (h : t.witness = none) : serTx t = serLegacy t := by
  unfold serTx; rw [h]

/-- T7 and T9 together: on well-formed transactions parse-then-serialise is the identity on bytes and
serialise-then-parse the identity on transactions. -/
theorem strict_roundtrip (t : Tx) (h : t.WF) (r : Bytes) :
    parseTxS (serTx t ++ r) = some (t, r) ∧ ∀ t' r', parseTxS (serTx t ++ r) = some (t', r') → serTx t' ++ r' = serTx t ++ r :=
  ⟨parseTxS_serTx t h r, fun t' r' h' => serTx_parseTxS _ t' r' h'⟩

/-- T4: block header round trip (the 80 bytes that are hashed) -/
theorem readHeader_serHeader (h : BlockHeader) (hw : h.WF) (r : Bytes) :
    readHeader (serHeader h ++ r) = some (h, r) := by
  obtain ⟨h1, h2, h3, h4, h5, h6⟩ := hw
  simp only [readHeader, serHeader, List.append_assoc, readFixed_leBytes 4 h1, readBytes_append h2, readBytes_append h3,
    readFixed_leBytes 4 h4, readFixed_leBytes 4 h5, readFixed_leBytes 4 h6]

/-- T4b: the header reader in the other direction, for EVERY byte string: what it accepts is exactly
the serialisation of the header it returns (a well-formed one) followed by the rest it returns -
the 80 bytes that are hashed are recovered field by field and re-serialised byte-identically. -/
theorem serHeader_readHeader (bs : Bytes) (h : BlockHeader) (r : Bytes) (hr : readHeader bs = some (h, r)) :
    serHeader h ++ r = bs ∧ h.WF := Btc.serHeader_readHeader bs h r hr

theorem serHeader_length (h : BlockHeader) (hw : h.WF) : (serHeader h).length = 80 := by
  obtain ⟨_, h2, h3, _, _, _⟩ := hw
  simp [serHeader, h2, h3]

theorem readHeader_isSome_iff (bs : Bytes) : (readHeader bs).isSome ↔ 80 ≤ bs.length := by
  constructor
  · intro h
    obtain ⟨⟨hd, r⟩, e⟩ := Option.isSome_iff_exists.mp h
    obtain ⟨e1, e2⟩ := Btc.serHeader_readHeader bs hd r e
    rw [← e1, List.length_append, serHeader_length hd e2]
    exact Nat.le_add_right 80 _
  · intro h
    -- every field reader finds its bytes
    have f : ∀ n k, n + k ≤ 80 → k ≤ (bs.drop n).length := fun n k hk => by
      rw [List.length_drop]
      exact Nat.le_sub_of_add_le' (Nat.le_trans hk h)
    simp only [readHeader, List.drop_drop, Nat.reduceAdd, readFixed_of_le (Nat.le_trans (by decide) h : 4 ≤ bs.length),
      readBytes_of_le (f 4 32 (by decide)), readBytes_of_le (f 36 32 (by decide)), readFixed_of_le (f 68 4 (by decide)),
      readFixed_of_le (f 72 4 (by decide)), readFixed_of_le (f 76 4 (by decide)), Option.isSome_some]

theorem parseBlockS_strict : Strict parseBlockS parseBlock serBlock := by
  intro bs b r h
  unfold parseBlockS at h
  repeat' split at h
  all_goals cases h
  rename_i hd r1 e1 _ txs e2
  obtain ⟨rfl, _⟩ := Btc.serHeader_readHeader _ _ _ e1
  obtain ⟨rfl, c2⟩ := readListS_strict parseTxS_strict e2
  exact ⟨by simp only [serBlock, List.append_assoc], by simp only [parseBlock, e1, c2]⟩

/-- T5b: blocks in the direction the property is worded - for every byte string, what the strict block
reader accepts re-serialises to exactly the bytes read (header, count and every transaction). -/
theorem serBlock_parseBlockS (bs : Bytes) (b : Block) (r : Bytes) (h : parseBlockS bs = some (b, r)) :
    serBlock b ++ r = bs := (parseBlockS_strict h).1

/-- The strict block reader accepts every serialisation of a block of well-formed transactions. -/
theorem parseBlockS_serBlock (b : Block) (hh : b.header.WF) (hn : b.txs.length < 2^64)
    (ht : ∀ t ∈ b.txs, t.WF) (r : Bytes) : parseBlockS (serBlock b ++ r) = some (b, r) := by
  have hT := readListS_ser parseTxS_serTx b.txs ⟨hn, ht⟩ r
  simp only [List.append_assoc] at hT
  simp only [parseBlockS, serBlock, List.append_assoc, readHeader_serHeader _ hh, hT]

/-- T5: a block of well-formed transactions parses back to the same header and transactions. -/
theorem parseBlock_serBlock (b : Block) (hh : b.header.WF) (hn : b.txs.length < 2^64)
    (ht : ∀ t ∈ b.txs, t.WF) (r : Bytes) : parseBlock (serBlock b ++ r) = some (b, r) :=
  (parseBlockS_strict (parseBlockS_serBlock b hh hn ht r)).2

/-- T6: the library's `Block.target` formula agrees with consensus `SetCompact` whenever the
exponent is at least 3 and the sign bit is clear (every block of a valid chain). -/
theorem targetImpl_eq_compactTarget (bits : Nat) (h3 : 3 ≤ bits / 2^24) (hs : bits % 2^24 < 2^23) :
    targetImpl bits = compactTarget bits := by
  have e : bits % 2^24 = bits % 2^23 := (Nat.mod_eq_of_lt hs).symm.trans (Nat.mod_mod_of_dvd bits ⟨2, rfl⟩)
  unfold targetImpl compactTarget
  simp only
  rw [if_neg (Nat.not_lt.mpr h3), if_neg fun h => Nat.not_le.mpr hs h.1, e]
  split
  · next h => rw [Nat.le_antisymm h h3, Nat.sub_self, Nat.pow_zero, Nat.mul_one, Nat.div_one]
  · rfl

/-- non-vacuity: a concrete segwit transaction satisfies `WF` -/
example : (⟨2, [⟨List.replicate 32 1, 0, [], 0xffffffff⟩], [⟨1000, [0x51]⟩], some [[[1, 2], []]], 0⟩ : Tx).WF := by
  simp only [Tx.WF, TxIn.WF, TxOut.WF, stackWF]
  decide

end Btc.C06
