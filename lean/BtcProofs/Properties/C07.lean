import BtcProofs.Lemmas.TxCreate
/-!
# C07 — Wallet-created transactions conserve value and pay exactly what was requested

> Every transaction a wallet creates balances exactly: the input values sum to the output values
> plus the reported fee, the fee is non-negative and inside the network's fee-rate limits, and no
> output is negative. Each requested recipient appears once with exactly the requested amount
> and script, every other output pays a change address of the same wallet, every input is a
> distinct currently-unspent output of this wallet with the required confirmations, and when
> funds are insufficient the request fails instead of producing a transaction.

`Btc.TxCreate.create` transcribes `Wallet.transaction_create` (with `select_inputs` and
`estimate_size`); the outputs of a created transaction are the requested amounts followed by
`Created.change` (the shuffle is a permutation).  The theorems hold for every request: any
candidate rows, amounts, fee arguments, service fee estimates, sizes, random draws.
-/
namespace Btc.C07
open Btc.TxCreate

theorem stageInputs_auto {r : Req} {cands : List Utxo} {maxU : Option Nat} {ins : List Utxo}
    (hi : r.inputs = .auto cands maxU) (h : stageInputs r = .ok ins) :
    (∃ m, ins.Sublist m ∧ m.Perm cands) ∧ amountOut r + (stageEstimate r).1 ≤ sumU ins := by
  simp only [stageInputs, hi, ite_error_eq_ok, Except.ok.injEq, List.isEmpty_iff] at h
  obtain ⟨_, hne, rfl⟩ := h
  exact ⟨selectInputs_subperm _ _ _ _, selectInputs_enough hne⟩

theorem stageInputs_given {r : Req} {l ins : List Utxo} (hi : r.inputs = .given l) (h : stageInputs r = .ok ins) :
    ins = l ∧ (l.map (·.id)).Nodup := by
  simp only [stageInputs, hi, ite_else_error_eq_ok, decide_eq_true_eq, Except.ok.injEq] at h
  exact ⟨h.2.symm, h.1⟩

theorem stageFee_ok {r : Req} {ins : List Utxo} {s : FeeState} (h : stageFee r ins = .ok s) :
    0 ≤ s.fee ∧ 0 ≤ s.change ∧ feeShort r ins = false ∧ s.fee = feeAfter r ins ∧ s.change = changeAfter r ins := by
  simp only [stageFee, ite_error_eq_ok, Except.ok.injEq, Bool.not_eq_true, Bool.or_eq_true, decide_eq_true_eq,
    not_or, Int.not_lt] at h
  obtain ⟨hshort, ⟨hch, hfee⟩, rfl⟩ := h
  -- the projections of the record are reduced first: left to `exact`, the unifier unfolds `feeAfter` before it does that
  dsimp only
  exact ⟨hfee, hch, hshort, rfl, rfl⟩

theorem finalize_ok {r : Req} {ins : List Utxo} {s : FeeState} {ch : ChangeState} {c : Created}
    (h : finalize r ins s ch = .ok c) :
    c.ins = ins ∧ c.fee = s.fee ∧ c.change = ch.outs ∧
    (sumU ins : Int) = s.fee + amountOut r + (ch.outs.sum : Nat) ∧
    (r.net.feeMin : Int) ≤ c.feePerKb ∧ c.feePerKb ≤ r.net.feeMax := by
  simp only [finalize, ite_error_eq_ok, Except.ok.injEq, bne_iff_ne, ne_eq, Decidable.not_not, Int.not_lt,
    gt_iff_lt] at h
  obtain ⟨hbal, hlo, hhi, rfl⟩ := h
  dsimp only
  exact ⟨rfl, rfl, rfl, hbal, hlo, hhi⟩

theorem create_ok {r : Req} {c : Created} (h : create r = .ok c) :
    stageInputs r = .ok c.ins ∧
    ∃ s ch, stageFee r c.ins = .ok s ∧ stageChange r c.ins s = .ok ch ∧ finalize r c.ins s ch = .ok c := by
  unfold create at h
  split at h
  next => cases h
  next ins h1 =>
    split at h
    next => cases h
    next s h2 =>
      split at h
      next => cases h
      next ch h3 =>
        obtain rfl := (finalize_ok h).1
        exact ⟨h1, s, ch, h2, h3, h⟩

/-- T1 (conservation): the inputs of a created transaction sum to the requested outputs plus
the change outputs plus the reported fee. -/
theorem create_balanced (r : Req) (c : Created) (h : create r = .ok c) :
    (sumU c.ins : Int) = (amountOut r : Int) + (c.change.sum : Nat) + c.fee := by
  obtain ⟨_, s, ch, _, _, hf⟩ := create_ok h
  obtain ⟨_, h2, h3, h4, _, _⟩ := finalize_ok hf
  rw [h2, h3, h4, Int.add_assoc, Int.add_comm]

/-- T2: the reported fee is not negative. -/
theorem create_fee_nonneg (r : Req) (c : Created) (h : create r = .ok c) : 0 ≤ c.fee := by
  obtain ⟨_, s, ch, hs, _, hf⟩ := create_ok h
  rw [(finalize_ok hf).2.1]
  exact (stageFee_ok hs).1

/-- a requested fee (explicit or named) is never lowered: absorbing a dust-sized change only
raises it (finding F41) -/
theorem create_fee_ge_requested {r : Req} {c : Created} {f : Int} (h : create r = .ok c)
    (hf : (stageEstimate r).2.2 = some f) : f ≤ c.fee := by
  obtain ⟨_, s, ch, hs, _, hfin⟩ := create_ok h
  obtain ⟨_, _, hshort, hfee, _⟩ := stageFee_ok hs
  rw [(finalize_ok hfin).2.1, hfee]
  have h1 : (feeTuple r c.ins).1 = f := by simp only [feeTuple, hf]
  -- `feeShort` has checked that the change this leaves is not negative
  simp only [feeShort, hf, Option.isSome_some, Bool.true_and, decide_eq_false_iff_not, Int.not_lt] at hshort
  rw [feeAfter, h1]
  split
  · exact Int.le_add_of_nonneg_right hshort
  · exact Int.le_refl f

/-- T3: the reported fee rate is inside the network's limits. -/
theorem create_rate_limits (r : Req) (c : Created) (h : create r = .ok c) :
    (r.net.feeMin : Int) ≤ c.feePerKb ∧ c.feePerKb ≤ r.net.feeMax := by
  obtain ⟨_, s, ch, _, _, hf⟩ := create_ok h
  exact (finalize_ok hf).2.2.2.2

/-- T4 (automatic inputs): every input is one of the candidate rows (unspent outputs of the wallet
with the required confirmations), no row is used twice, and the inputs cover the requested
amount plus the fee estimate. -/
theorem create_inputs_auto (r : Req) (c : Created) (cands : List Utxo) (maxU : Option Nat)
    (hi : r.inputs = .auto cands maxU) (hn : cands.Nodup) (h : create r = .ok c) :
    (∀ u ∈ c.ins, u ∈ cands) ∧ c.ins.Nodup ∧ amountOut r + (stageEstimate r).1 ≤ sumU c.ins := by
  obtain ⟨⟨m, hs, hp⟩, hge⟩ := stageInputs_auto hi (create_ok h).1
  exact ⟨fun u hu => hp.subset (hs.subset hu), (hp.nodup_iff.mpr hn).sublist hs, hge⟩

/-- T5 (insufficient funds, automatic inputs): when the candidate rows cannot pay the requested
amount plus the fee estimate, no transaction is produced. -/
theorem insufficient_fails_auto (r : Req) (cands : List Utxo) (maxU : Option Nat)
    (hi : r.inputs = .auto cands maxU)
    (hlt : sumU cands < amountOut r + (stageEstimate r).1) : ∃ e, create r = .error e := by
  refine fails_of_not_ok fun c hc => ?_
  obtain ⟨⟨m, hs, hp⟩, hge⟩ := stageInputs_auto hi (create_ok hc).1
  have hle := sublist_sumU_le hs
  rw [perm_sumU hp] at hle
  omega

/-- T6b (explicit inputs): a created transaction never names the same outpoint twice. -/
theorem create_inputs_given_distinct (r : Req) (c : Created) (l : List Utxo) (hi : r.inputs = .given l)
    (h : create r = .ok c) : c.ins = l ∧ (l.map (·.id)).Nodup :=
  stageInputs_given hi (create_ok h).1

/-- T6 (insufficient funds, explicit inputs): when the given inputs cannot pay the requested
outputs no transaction is produced, and with an explicit fee not even when they cannot pay
outputs plus that fee. -/
theorem insufficient_fails_given (r : Req) (l : List Utxo) (hi : r.inputs = .given l)
    (hlt : sumU l < amountOut r) : ∃ e, create r = .error e := by
  refine fails_of_not_ok fun c hc => ?_
  have hb := create_balanced r c hc
  have hf := create_fee_nonneg r c hc
  rw [(create_inputs_given_distinct r c l hi hc).1] at hb
  omega

theorem explicit_fee_not_reduced (r : Req) (l : List Utxo) (f : Nat) (hi : r.inputs = .given l)
    (hf : r.feeArg = .explicit f) (hlt : sumU l < amountOut r + f) : ∃ e, create r = .error e := by
  refine fails_of_not_ok fun c hc => ?_
  have hb := create_balanced r c hc
  have hfee : (f : Int) ≤ c.fee := create_fee_ge_requested hc (by simp only [stageEstimate, hf])
  rw [(create_inputs_given_distinct r c l hi hc).1] at hb
  omega

/-- a single change output is strictly positive -/
theorem single_change_positive (r : Req) (ins : List Utxo) (s : FeeState) (ch : ChangeState)
    (hs : stageFee r ins = .ok s) (hc : stageChange r ins s = .ok ch) (h1 : nChangeOf r ≤ 1) :
    ∀ v ∈ ch.outs, 0 < v := by
  have hpos := (stageFee_ok hs).2.1
  by_cases hz : s.change = 0
  · rw [stageChange, if_pos (beq_iff_eq.mpr hz)] at hc
    cases hc
    exact fun v hv => absurd hv List.not_mem_nil
  · simp only [stageChange, beq_iff_eq, hz, if_false, ite_error_eq_ok, Except.ok.injEq] at hc
    obtain ⟨_, _, _, rfl⟩ := hc
    intro v hv
    obtain ⟨x, hx, rfl⟩ := List.mem_map.mp hv
    -- at most one change output: the amounts are a prefix of `[s.change]`
    rw [changeAmounts, if_neg (Nat.not_lt.mpr h1)] at hx
    obtain rfl : x = s.change := List.mem_singleton.mp (List.mem_of_mem_take hx)
    omega

/-- the hypotheses are satisfiable: a request that produces a transaction -/
def exampleReq : Req :=
  { net := { dust := 1000, feeMin := 1000, feeMax := 1000000 }, amounts := [20000], outLens := [22],
    feeArg := .explicit 1000, svcFee := 20000,
    inputs := .given [{ id := 1, value := 100000, conf := 3 }],
    kind := { wt := .segwit, multisig := none, compressed := true }, txwt0 := .segwit, txwt1 := .segwit,
    nChangeReq := 1, nChangeRand := 1, parts := [], single := false }

-- The kernel cannot unfold the well-founded `mergeSort` / binary64 rounding, so there is no
-- `example : create exampleReq = .ok _`.  Non-vacuity is shown by evaluation only:
-- `#eval create exampleReq` gives `.ok` (fee 1000, change `[79000]`), and the driver (`txc_create`)
-- evaluates `create` on the requests of every correspondence run, created and refused ones.

theorem sweepPlan_eq_some_iff {r : SweepReq} {p : Nat × List Nat} :
    sweepPlan r = some p ↔
      multiRest r = false ∧ r.values ≠ [] ∧ (r.dust : Int) < sweepTotal r - sweepFeeOf r ∧
      (sweepAmounts r).sum + sweepFeeOf r = sweepTotal r ∧ (sweepFeeOf r, sweepAmounts r) = p := by
  simp only [sweepPlan, Option.ite_none_left_eq_some, Option.some.injEq, Bool.not_eq_true, List.isEmpty_iff,
    Int.not_le, bne_iff_ne, ne_eq, Decidable.not_not]

/-- a sweep with more than one "rest" target (amount 0) is refused: no requested recipient is silently left out (finding F89) -/
theorem sweep_one_rest (r : SweepReq) (l : List Nat) (hl : r.outs = some l) (p : Nat × List Nat) (h : sweepPlan r = some p) :
    (l.filter (· = 0)).length ≤ 1 := by
  simpa [multiRest, hl] using (sweepPlan_eq_some_iff.mp h).1

/-- T7 (sweep): a sweep that is not refused pays out every swept satoshi: the amounts plus the
fee equal the sum of the inputs it names (the unspent outputs above the dust limit), and
something above the dust limit is left after the fee. -/
theorem sweep_balanced (r : SweepReq) (fee : Nat) (amounts : List Nat) (h : sweepPlan r = some (fee, amounts)) :
    amounts.sum + fee = (r.values.filter (· > r.dust)).sum ∧
    (r.dust : Int) < ((r.values.filter (· > r.dust)).sum : Int) - fee := by
  obtain ⟨_, _, hleft, hsum, hp⟩ := sweepPlan_eq_some_iff.mp h
  cases hp
  exact ⟨hsum, hleft⟩

theorem sumB_nil : sumB [] = 0 := rfl

theorem sumB_cons (o : BOut) (l : List BOut) : sumB (o :: l) = o.1 + sumB l := rfl

/-- the fee-bump loop: recipients (non-change outputs) are kept as they are, in order, and what
the outputs lose, plus what is still unpaid at the end, is at least what was to be paid -/
theorem bumpLoop_spec (extra rem : Nat) (outs : List BOut) :
    (bumpLoop extra rem outs).2.filter (!·.2) = outs.filter (!·.2) ∧
    sumB (bumpLoop extra rem outs).2 + rem ≤ sumB outs + (bumpLoop extra rem outs).1 := by
  fun_induction bumpLoop extra rem outs
  all_goals
    refine ⟨by simp +zetaDelta [*], ?_⟩
    simp +zetaDelta only [sumB_cons, sumB_nil]
    omega

theorem bumpExtra_ok {oldFee vsize fee extraFee extra : Nat} (h : bumpExtra oldFee vsize fee extraFee = .ok extra) :
    (fee ≠ 0 → extra = fee - oldFee ∧ oldFee + vsize ≤ fee) ∧ (fee = 0 → extra = extraFee ∧ vsize ≤ extraFee) := by
  refine ⟨fun hf => ?_, fun hf => ?_⟩
  · simp only [bumpExtra, if_pos (bne_iff_ne.mpr hf), ite_error_eq_ok, Nat.not_lt, Except.ok.injEq] at h
    obtain ⟨_, hv, rfl⟩ := h
    exact ⟨rfl, hv⟩
  · simp only [bumpExtra, hf, bne_self_eq_false, Bool.false_eq_true, if_false, ite_error_eq_ok, ite_else_error_eq_ok,
      Nat.not_lt, Except.ok.injEq] at h
    obtain ⟨_, _, hv, rfl⟩ := h
    exact ⟨rfl, hv⟩

theorem bumpE_ok {oldFee vsize fee extraFee : Nat} {outs outs' : List BOut}
    (h : bumpE oldFee vsize fee extraFee outs = .ok outs') :
    outs'.filter (!·.2) = outs.filter (!·.2) ∧
    ∃ extra, (fee ≠ 0 → extra = fee - oldFee ∧ oldFee + vsize ≤ fee) ∧
      (fee = 0 → extra = extraFee ∧ vsize ≤ extraFee) ∧ sumB outs' + extra ≤ sumB outs := by
  unfold bumpE at h
  split at h
  next => cases h
  next extra hx =>
    simp only [ite_error_eq_ok, bne_iff_ne, ne_eq, Decidable.not_not, Except.ok.injEq] at h
    obtain ⟨hz, rfl⟩ := h
    have ⟨hfilter, hsum⟩ := bumpLoop_spec extra extra outs
    rw [hz] at hsum
    exact ⟨hfilter, extra, (bumpExtra_ok hx).1, (bumpExtra_ok hx).2, hsum⟩

/-- the wallet's call: no `fee`, so `extraFee` is the extra fee -/
theorem bumpE_extra_ok {oldFee vsize extraFee : Nat} {outs outs' : List BOut}
    (h : bumpE oldFee vsize 0 extraFee outs = .ok outs') :
    outs'.filter (!·.2) = outs.filter (!·.2) ∧ sumB outs' + extraFee ≤ sumB outs := by
  obtain ⟨hfilter, extra, _, h0, hsum⟩ := bumpE_ok h
  obtain ⟨rfl, _⟩ := h0 rfl
  exact ⟨hfilter, hsum⟩

/-- T8 (replace-by-fee): a fee bump that is not refused leaves every recipient output untouched
and takes at least the requested extra fee out of the change outputs, so the transaction still
balances with a fee that is at least the old fee plus the extra fee. -/
theorem bump_spec (oldFee vsize fee extraFee : Nat) (outs outs' : List BOut)
    (h : bump oldFee vsize fee extraFee outs = some outs') :
    outs'.filter (!·.2) = outs.filter (!·.2) ∧
    ∃ extra, (fee ≠ 0 → extra = fee - oldFee ∧ oldFee + vsize ≤ fee) ∧
      (fee = 0 → extra = extraFee ∧ vsize ≤ extraFee) ∧ sumB outs' + extra ≤ sumB outs := by
  unfold bump at h
  split at h
  next l hb => cases h; exact bumpE_ok hb
  next => cases h

/-- The change output that pays the rest loses exactly the rest (repair F115): with change outputs of
900 and 300 and an extra fee of 1000 the first is used up and the second keeps 200, so exactly 1000
are taken.  Before the repair the whole extra fee was subtracted from the second one:
300 - 1000 = -700, an output below zero. -/
theorem bump_second_change_pays_rest :
    bumpLoop 1000 1000 [(5000, false), (900, true), (300, true)] = (0, [(5000, false), (200, true)]) ∧
    ((300 : Int) - 1000 < 0) := by
  decide

theorem pickExtraInput_spec {utxos : List Utxo} {current : List Nat} {amountMin : Nat} {u : Utxo}
    (h : pickExtraInput utxos current amountMin = some u) :
    u ∈ utxos ∧ u.id ∉ current ∧ amountMin ≤ u.value := by
  have hp := List.find?_some h
  simp only [Bool.and_eq_true, Bool.not_eq_true', List.contains_eq_mem, decide_eq_false_iff_not,
    decide_eq_true_eq] at hp
  exact ⟨List.mem_of_find?_eq_some h, hp.1, hp.2⟩

theorem creditChange_spec (v : Nat) (outs : List BOut) :
    (creditChange v outs).filter (!·.2) = outs.filter (!·.2) ∧ sumB (creditChange v outs) = sumB outs + v := by
  fun_induction creditChange v outs
  all_goals
    refine ⟨by simp [*], ?_⟩
    simp +arith only [sumB_cons, sumB_nil, *]

/-- T9 (fee bump through the wallet): when the change cannot pay the extra fee one more input is
taken from the wallet — an unspent output the transaction does not spend yet, so the inputs stay
distinct —, the recipients are untouched, and the transaction balances with a fee of at least the
old fee plus the extra fee (inputs grow by the new input's value, outputs by at most that value
minus the extra fee). -/
theorem walletBump_spec (oldFee vsize extraFee : Nat) (ins : List Nat) (outs : List BOut) (utxos : List Utxo)
    (ins' : List Nat) (outs' : List BOut) (hnd : ins.Nodup)
    (h : walletBump oldFee vsize extraFee ins outs utxos = .ok (ins', outs')) :
    ins'.Nodup ∧ outs'.filter (!·.2) = outs.filter (!·.2) ∧
    ((ins' = ins ∧ sumB outs' + extraFee ≤ sumB outs) ∨
     (∃ u ∈ utxos, ins' = ins ++ [u.id] ∧ u.id ∉ ins ∧ sumB outs' + extraFee ≤ sumB outs + u.value)) := by
  unfold walletBump at h
  split at h
  next l hb =>
    cases h
    obtain ⟨hfilter, hsum⟩ := bumpE_extra_ok hb
    exact ⟨hnd, hfilter, .inl ⟨rfl, hsum⟩⟩
  next =>
    -- not enough change: one more input `u`, credited to the change, then the same bump again
    split at h
    next => cases h
    next u hp =>
      obtain ⟨hu, hnin, _⟩ := pickExtraInput_spec hp
      split at h
      next l hb =>
        cases h
        obtain ⟨hfilter, hsum⟩ := bumpE_extra_ok hb
        obtain ⟨cfilter, csum⟩ := creditChange_spec u.value outs
        -- `ins ++ [u.id]` is a permutation of `u.id :: ins`
        have hnd' : (ins ++ [u.id]).Nodup := List.perm_append_comm.nodup_iff.mpr (List.nodup_cons.mpr ⟨hnin, hnd⟩)
        exact ⟨hnd', hfilter.trans cfilter, .inr ⟨u, hu, rfl, hnin, csum ▸ hsum⟩⟩
      next => cases h
  next => cases h

end Btc.C07
