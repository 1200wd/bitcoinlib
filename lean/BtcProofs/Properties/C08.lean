import BtcProofs.Lemmas.Ledger
/-!
# C08 — Wallet ledger stays consistent over any history and survives reopening

> After any sequence of wallet operations (creating keys, receiving outputs, sending, sweeping,
> importing or deleting transactions, closing and reopening the database) the reported balance
> equals the sum of the wallet's unspent outputs, which equals the sum of the per-key balances,
> and an output consumed by a transaction the wallet has sent is never listed as unspent or
> selected again. Stored transactions reload with the same id, inputs, outputs, amounts and
> serialization.

`Btc.Ledger` transcribes the table updates of the anchored methods.  The theorems quantify over
**every** list of operations (`run init ops`): T2, T3 and T4 are proved for every state that
satisfies the invariant `Inv` and then read at the reachable states.  `sweep`, `send_to`, `send`
and an imported transaction that is then sent are all the operation `send` of the model (they
differ in how the transaction is built — property C07 — not in what is recorded).  The
differential run replays random histories on real `Wallet` objects and compares `utxos()`,
`balance()`, the per-key balances (same object and a second object on the same database) and
`transaction(txid)` with the model after every operation.
-/
namespace Btc.C08
open Btc.Ledger

theorem reachable_inv (ops : List Op) : Inv (run init ops) := inv_run inv_init ops

/-- T1: `balance()` reports the sum of the unspent outputs, in every reachable state, and does
not change the set of unspent outputs. -/
theorem balance_eq_unspent (ops : List Op) :
    (balance (run init ops)).2 = total (run init ops) ∧
    unspent (balance (run init ops)).1 = unspent (run init ops) := ⟨rfl, rfl⟩

theorem find_keyBal (f : Nat → Nat) {k : Nat} {keys : List Nat} (hk : k ∈ keys) :
    ((keys.map fun k' => (k', f k')).find? fun p => p.1 == k) = some (k, f k) := by
  rw [List.find?_map]
  cases h : keys.find? _ with
  | none => exact absurd (beq_self_eq_true k) (List.find?_eq_none.mp h k hk)
  | some a =>
    have hb := List.find?_some h
    cases beq_iff_eq.mp hb
    rfl

/-- T2 in any state that satisfies the invariant -/
theorem keybal_of_inv {st : St} (h : Inv st) :
    (∀ k ∈ st.keys, keyBalOf st k = keyTotal st k) ∧ ((st.keyBal.map (·.2)).sum = total st) := by
  constructor
  · intro k hk
    rw [keyBalOf, h.balOk, find_keyBal (keyTotal st) hk]
    rfl
  · rw [h.balOk, List.map_map]
    -- an unspent row has a key, and that is a key of the wallet
    refine sum_filter_key h.nodupKeys (unspentL st.outs) fun o ho => ?_
    obtain ⟨ho, hu⟩ := List.mem_filter.mp ho
    obtain ⟨k, hk⟩ := Option.isSome_iff_exists.mp (Bool.and_eq_true_iff.mp hu).2
    exact ⟨k, (h.rows o ho).key k hk, hk⟩

/-- T2: in every reachable state each key's stored balance is the sum of that key's unspent
outputs, and the per-key balances add up to the sum of all unspent outputs (= `balance()`). -/
theorem keybal_consistent (ops : List Op) :
    (∀ k ∈ (run init ops).keys, keyBalOf (run init ops) k = keyTotal (run init ops) k) ∧
    (((run init ops).keyBal.map (·.2)).sum = total (run init ops)) :=
  keybal_of_inv (reachable_inv ops)

/-- T3 in any state that satisfies the invariant -/
theorem not_unspent_of_inv {st : St} (h : Inv st) :
    ∀ i ∈ st.ins, isUnspentOutpoint st i.ptx i.pn = false := by
  intro i hi
  rw [isUnspentOutpoint, List.any_eq_false]
  intro o ho e
  obtain ⟨ho, hu⟩ := List.mem_filter.mp ho
  simp only [Bool.and_eq_true, beq_iff_eq] at e
  -- `o` is the row of the outpoint of `i`, so it is marked spent and not in the list
  rw [(h.rows o ho).spent i hi e.1.symm e.2.symm] at hu
  cases hu

/-- T3: in every reachable state, an outpoint that a stored transaction consumes is not listed
as unspent. -/
theorem consumed_not_unspent (ops : List Op) :
    ∀ i ∈ (run init ops).ins, isUnspentOutpoint (run init ops) i.ptx i.pn = false :=
  not_unspent_of_inv (reachable_inv ops)

theorem ins_persist {st : St} {i : InRec} (hi : i ∈ st.ins) {op : Op} (hop : op ≠ Op.delete i.tx) :
    i ∈ (step st op).1.ins := by
  cases op with
  | newKey k =>
    rw [step, newKey]
    split <;> exact hi
  | utxoAdd key value t n conf => rwa [step, utxoAdd_ins]
  | send t b =>
    rw [step, send]
    split
    · exact List.mem_append_left _ hi
    · exact hi
  | delete t =>
    rw [step, delete]
    split
    · exact List.mem_filter.mpr ⟨hi, bne_iff_ne.mpr fun e => hop (e ▸ rfl)⟩
    · exact hi
  | reopen => exact hi
  | balance => exact hi

/-- T4 from any state that satisfies the invariant -/
theorem consumed_until_deleted {st : St} (h : Inv st) {i : InRec} (hi : i ∈ st.ins) {ops : List Op}
    (hops : ∀ op ∈ ops, op ≠ Op.delete i.tx) : isUnspentOutpoint (run st ops) i.ptx i.pn = false :=
  not_unspent_of_inv (inv_run h ops) i
    (List.foldlRecOn (motive := fun s : St => i ∈ s.ins) ops _ hi fun _ hs op ho => ins_persist hs (hops op ho))

/-- T4 (never selected again): once `send` has recorded a transaction, the outputs it consumed
are not unspent in any later state, whatever operations follow, until that transaction is
deleted. -/
theorem consumed_never_again (ops1 ops2 : List Op) (txid : Nat) (b : TxBody)
    (hs : (send (run init ops1) txid b).2 = Status.ok)
    (hops : ∀ op ∈ ops2, op ≠ Op.delete txid) :
    ∀ p ∈ outpoints b, isUnspentOutpoint (run init (ops1 ++ [Op.send txid b] ++ ops2)) p.1 p.2 = false := by
  intro p hp
  obtain ⟨x, hx, rfl⟩ := List.mem_map.mp hp
  have hi : ({ tx := txid, ptx := x.1, pn := x.2.1 } : InRec) ∈ (send (run init ops1) txid b).1.ins := by
    rw [send, if_pos (send_ok hs)]
    exact List.mem_append_right _ (List.mem_map.mpr ⟨x, hx, rfl⟩)
  have hrun : run init (ops1 ++ [Op.send txid b] ++ ops2) = run (send (run init ops1) txid b).1 ops2 := by
    simp only [run, List.foldl_append, List.foldl_cons, List.foldl_nil, step]
  rw [hrun]
  exact consumed_until_deleted (inv_send (reachable_inv ops1) txid b) hi hops

/-- T5: closing and reopening changes nothing that is reported. -/
theorem reopen_same (st : St) :
    unspent (reopen st) = unspent st ∧ (balance (reopen st)).2 = (balance st).2 ∧
    (reopen st).keyBal = st.keyBal ∧ (∀ t, lookupTx (reopen st) t = lookupTx st t) :=
  ⟨rfl, rfl, rfl, fun _ => rfl⟩

/-- T6: a transaction reloads as it was stored - in the state right after the `send`; `lookupTx` is
not followed through later operations. -/
theorem stored_reloads (st : St) (txid : Nat) (b : TxBody) (hs : (send st txid b).2 = Status.ok) :
    lookupTx (send st txid b).1 txid = some b := by
  have g := send_ok hs
  -- the guard: no stored row carries the id, so the lookup finds the row just appended
  have hf : ∀ x ∈ st.txs, ¬(x.txid == txid) = true := List.any_eq_false.mp (sendGuard_iff.mp g).1
  rw [send, if_pos g]
  show ((st.txs ++ [_]).find? _).bind _ = _
  rw [List.find?_append, List.find?_eq_none.mpr hf]
  simp

/-- F23 (the defect repaired by the `fix:` commit): with the pinned `_balance_update`, which only
overwrote the cached group total when the group still had unspent outputs, a wallet that spends
its last output keeps reporting the old total. -/
theorem pinned_balance_stale :
    let st := (utxoAdd (newKey init 1).1 1 50000 7 0 3).1
    let spent : St := { st with outs := st.outs.map fun o => { o with spent := true } }
    (balanceUpdatePinned spent).cache = some 50000 ∧ total spent = 0 := by
  decide +kernel

/-- A replacement history: two stored transactions consume the same outpoint (the second was built
before the first was sent and is sent afterwards), then the first is deleted.  The outpoint stays
consumed - it is not listed as unspent and the balance is the replacement's change (an instance of
T3, which holds for every history; here with the figures). -/
theorem replacement_then_delete :
    let ops := [Op.newKey 1, Op.newKey 2, Op.utxoAdd 1 1000000 7 0 5,
      Op.send 8 { ins := [(7, 0, 1000000)], outs := [(100000, none), (899000, some 2)] },
      Op.send 9 { ins := [(7, 0, 1000000)], outs := [(100000, none), (895000, some 2)] },
      Op.delete 8]
    isUnspentOutpoint (run init ops) 7 0 = false ∧ total (run init ops) = 895000 := by
  decide +kernel

/-- `delete` as it was before the repair F103 (every consumed output becomes unspent
again) lists the outpoint as unspent although the stored replacement consumes it. -/
theorem pinned_delete_frees_consumed :
    let st := run init [Op.newKey 1, Op.newKey 2, Op.utxoAdd 1 1000000 7 0 5,
      Op.send 8 { ins := [(7, 0, 1000000)], outs := [(100000, none), (899000, some 2)] },
      Op.send 9 { ins := [(7, 0, 1000000)], outs := [(100000, none), (895000, some 2)] }]
    isUnspentOutpoint (deletePinned st 8).1 7 0 = true ∧ spentInDb (deletePinned st 8).1 7 0 = true := by
  decide +kernel

/-- A parent is sent, its change is spent by a child, the parent is deleted and stored again (sent
again from the object the caller held): the change the stored child consumes is spent from the
start (repair F117) - an instance of T3 with the figures. -/
theorem parent_stored_again :
    let parent : TxBody := { ins := [(7, 0, 1000000)], outs := [(100000, none), (899000, some 2)] }
    let ops := [Op.newKey 1, Op.newKey 2, Op.newKey 3, Op.utxoAdd 1 1000000 7 0 5,
      Op.send 8 parent,
      Op.send 9 { ins := [(8, 1, 899000)], outs := [(200000, none), (698000, some 3)] },
      Op.delete 8, Op.send 8 parent]
    isUnspentOutpoint (run init ops) 8 1 = false ∧ total (run init ops) = 698000 := by
  decide +kernel

/-- the hypotheses of T4 are satisfiable: a history with a send that is accepted -/
example : (send (run init [Op.newKey 1, Op.newKey 2, Op.utxoAdd 1 50000 7 0 3]) 9
    { ins := [(7, 0, 50000)], outs := [(20000, none), (29000, some 2)] }).2 = Status.ok := by decide +kernel

example : total (run init [Op.newKey 1, Op.newKey 2, Op.utxoAdd 1 50000 7 0 3,
    Op.send 9 { ins := [(7, 0, 50000)], outs := [(20000, none), (29000, some 2)] }]) = 29000 := by decide +kernel

end Btc.C08
