import BtcProofs.Lemmas.KeyPaths
/-!
# C09 — Wallet keys follow BIP44/49/84/48 paths and restore deterministically

> Every key a wallet hands out lies at the documented path for its witness type, network,
> account, change flag and index, and its key material and address are what BIP32 derivation
> from the wallet's master key gives for that path. Indices are issued without gaps or repeats,
> no two keys of a wallet share an address, and recreating the wallet from the same seed,
> mnemonic or extended key - private, or watch-only from the account public key - reproduces
> the same addresses.

Three layers: (1) the generated `WALLET_KEY_STRUCTURES` table is pinned against the BIPs (purpose
numbers, level order, hardened levels) by `decide`; (2) `pathOf` (= `path_expand` on the template of
the wallet's kind) is computed for every value of the variables; it is injective in the index for all six
structures and in the whole chain for single-signature wallets; (3) the machine of
key rows hands out indices `0, 1, 2, …` per chain without repeats — for every history, and
without gaps for every history of `new_key(s)` / `get_key(s)` / marking keys used.  That the key
material and the address at a path are the BIP32 / address-encoding ones is C03 / C04 / C11; the
correspondence run derives every key a real wallet hands out independently with the Lean BIP32 and
address functions.  Determinism of re-creation is a property of a pure function of seed and history;
the run re-creates wallets from seed, mnemonic, xprv and account xpub and compares addresses.
-/
namespace Btc.C09
open Btc.Gen Btc.KeyPaths

def shape (k : KeyStructure) : Option Nat × List (String × Bool) × String × String :=
  (k.purpose, k.keyPath.map (fun l => (l.name, l.hardened)), k.scriptType, k.encoding)

/-- BIP44: m / 44' / coin_type' / account' / change / address_index, P2PKH -/
theorem table_bip44 : (structureFor "legacy" false).map shape = some (some 44,
    [("m", false), ("purpose", true), ("coin_type", true), ("account", true), ("change", false), ("address_index", false)],
    "p2pkh", "base58") := by decide +kernel

/-- BIP49: m / 49' / coin_type' / account' / change / address_index, P2SH-P2WPKH -/
theorem table_bip49 : (structureFor "p2sh-segwit" false).map shape = some (some 49,
    [("m", false), ("purpose", true), ("coin_type", true), ("account", true), ("change", false), ("address_index", false)],
    "p2sh-p2wpkh", "base58") := by decide +kernel

/-- BIP84: m / 84' / coin_type' / account' / change / address_index, P2WPKH -/
theorem table_bip84 : (structureFor "segwit" false).map shape = some (some 84,
    [("m", false), ("purpose", true), ("coin_type", true), ("account", true), ("change", false), ("address_index", false)],
    "p2wpkh", "bech32") := by decide +kernel

/-- BIP45: m / 45' / cosigner_index / change / address_index, P2SH multisig -/
theorem table_bip45 : (structureFor "legacy" true).map shape = some (some 45,
    [("m", false), ("purpose", true), ("cosigner_index", false), ("change", false), ("address_index", false)],
    "p2sh", "base58") := by decide +kernel

/-- BIP48: m / 48' / coin_type' / account' / script_type' / change / address_index -/
theorem table_bip48_nested : (structureFor "p2sh-segwit" true).map shape = some (some 48,
    [("m", false), ("purpose", true), ("coin_type", true), ("account", true), ("script_type", true), ("change", false), ("address_index", false)],
    "p2sh-p2wsh", "base58") := by decide +kernel

theorem table_bip48_native : (structureFor "segwit" true).map shape = some (some 48,
    [("m", false), ("purpose", true), ("coin_type", true), ("account", true), ("script_type", true), ("change", false), ("address_index", false)],
    "p2wsh", "bech32") := by decide +kernel

def hard (n : Nat) : Elem := { idx := n, hard := true }
def soft (n : Nat) : Elem := { idx := n, hard := false }

/-- the purpose level of a single-signature wallet: BIP44, BIP49, BIP84 -/
def purpose (witnessType : String) : Nat :=
  if witnessType = "legacy" then 44 else if witnessType = "p2sh-segwit" then 49 else 84

theorem purpose_injective {a b : String} (ha : a = "legacy" ∨ a = "p2sh-segwit" ∨ a = "segwit")
    (hb : b = "legacy" ∨ b = "p2sh-segwit" ∨ b = "segwit") (hp : purpose a = purpose b) : a = b := by
  rcases ha with rfl | rfl | rfl <;> rcases hb with rfl | rfl | rfl <;> simp [purpose] at hp ⊢

/-- single-signature wallets: m / purpose' / coin' / account' / change / index with purpose 44, 49, 84 -/
theorem path_single (c : Chain) (i : Nat)
    (hw : c.witnessType = "legacy" ∨ c.witnessType = "p2sh-segwit" ∨ c.witnessType = "segwit") :
    pathOf false c i = some [hard (purpose c.witnessType), hard c.coinType, hard c.account, soft c.change, soft i] := by
  obtain ⟨wt, coin, account, change, cosigner⟩ := c
  -- `eq_refl`, not `rfl`: the three evaluations then share the comparisons of the template's strings
  -- (under the `rfl` macro each starts afresh, at twice the cost)
  rcases hw with rfl | rfl | rfl <;> eq_refl

/-- multisig wallets: BIP45 and BIP48 (script type 1' nested, 2' native) -/
theorem path_multisig (c : Chain) (i : Nat) :
    (c.witnessType = "legacy" → pathOf true c i = some [hard 45, soft c.cosigner, soft c.change, soft i]) ∧
    (c.witnessType = "p2sh-segwit" → pathOf true c i = some [hard 48, hard c.coinType, hard c.account, hard 1, soft c.change, soft i]) ∧
    (c.witnessType = "segwit" → pathOf true c i = some [hard 48, hard c.coinType, hard c.account, hard 2, soft c.change, soft i]) := by
  obtain ⟨wt, coin, account, change, cosigner⟩ := c
  refine ⟨?_, ?_, ?_⟩ <;> rintro rfl <;> eq_refl

theorem path_ends_change_index (ms : Bool) (c : Chain)
    (hw : c.witnessType = "legacy" ∨ c.witnessType = "p2sh-segwit" ∨ c.witnessType = "segwit") :
    ∃ pre, ∀ i, pathOf ms c i = some (pre ++ [soft c.change, soft i]) := by
  cases ms
  · exact ⟨[hard (purpose c.witnessType), hard c.coinType, hard c.account], fun i => path_single c i hw⟩
  · rcases hw with hw | hw | hw
    · exact ⟨[hard 45, soft c.cosigner], fun i => (path_multisig c i).1 hw⟩
    · exact ⟨[hard 48, hard c.coinType, hard c.account, hard 1], fun i => (path_multisig c i).2.1 hw⟩
    · exact ⟨[hard 48, hard c.coinType, hard c.account, hard 2], fun i => (path_multisig c i).2.2 hw⟩

/-- different indices give different paths (all six structures) -/
theorem path_index_injective (ms : Bool) (c : Chain) (i j : Nat) (p : Path)
    (hw : c.witnessType = "legacy" ∨ c.witnessType = "p2sh-segwit" ∨ c.witnessType = "segwit")
    (hi : pathOf ms c i = some p) (hj : pathOf ms c j = some p) : i = j := by
  obtain ⟨pre, hpre⟩ := path_ends_change_index ms c hw
  have e := (hpre i).symm.trans (hi.trans (hj.symm.trans (hpre j)))
  simpa [soft] using e

/-- single-signature wallets: two keys with the same path are the same key (witness type,
coin type, account, change and index) -/
theorem path_single_injective (c d : Chain) (i j : Nat) (p : Path)
    (hc : c.witnessType = "legacy" ∨ c.witnessType = "p2sh-segwit" ∨ c.witnessType = "segwit")
    (hd : d.witnessType = "legacy" ∨ d.witnessType = "p2sh-segwit" ∨ d.witnessType = "segwit")
    (hi : pathOf false c i = some p) (hj : pathOf false d j = some p) :
    c.witnessType = d.witnessType ∧ c.coinType = d.coinType ∧ c.account = d.account ∧ c.change = d.change ∧ i = j := by
  have e := (path_single c i hc).symm.trans (hi.trans (hj.symm.trans (path_single d j hd)))
  simp only [Option.some.injEq, List.cons.injEq, hard, soft, Elem.mk.injEq, and_true] at e
  exact ⟨purpose_injective hc hd e.1, e.2⟩

/-- histories without explicit `key_for_path` requests -/
def Issued : Op → Prop
  | .keyForIndex _ _ => False
  | _ => True

/-- T1: after any history every key row lies at the path of its chain and index. -/
theorem rows_at_documented_path (ms : Bool) (ops : List Op) :
    ∀ r ∈ (run (init ms) ops).rows, pathOf ms r.chain r.index = some r.path :=
  (inv_run (inv_init ms) ops).paths

/-- T2 (no repeats): after any history no two key rows have the same chain and address index —
hence no two rows of one chain the same path (`path_index_injective`).  Chains that differ only in
a field their path leaves out (`cosigner` in a single-signature wallet, see `path_single`) share
their paths. -/
theorem no_repeated_index (ms : Bool) (ops : List Op) :
    ((run (init ms) ops).rows.map fun r => (r.chain, r.index)).Nodup :=
  (inv_run (inv_init ms) ops).nodup

theorem gapfree_step {st : St} {op : Op} (hop : Issued op) (hg : GapFree st) : GapFree (step st op) :=
  step_induct op hg (gapfree_markUsed hg) fun _ _ _ _ _ e _ hi => by
    rcases hi with rfl | rfl
    · exact gapfree_addRows hg e
    · exact hop.elim

theorem gapfree_run {st : St} (hg : GapFree st) (ops : List Op) (hops : ∀ op ∈ ops, Issued op) :
    GapFree (run st ops) :=
  List.foldlRecOn ops step hg fun _ hg op hop => gapfree_step (hops op hop) hg

/-- T3 (no gaps): along any history of `new_key(s)` / `get_key(s)` / keys becoming used, the
indices of every chain are exactly `0, 1, …, k-1`, in the order in which the keys were created. -/
theorem issued_without_gaps (ms : Bool) (ops : List Op) (hops : ∀ op ∈ ops, Issued op) :
    GapFree (run (init ms) ops) :=
  gapfree_run (fun _ => rfl) ops hops

/-- the next key of a gap-free chain gets the number of keys the chain already has -/
theorem next_is_count (ms : Bool) (ops : List Op) (hops : ∀ op ∈ ops, Issued op) (c : Chain) :
    nextIndex (run (init ms) ops) c = (chainRows (run (init ms) ops) c).length :=
  nextIndex_of_gapfree (issued_without_gaps ms ops hops) c

end Btc.C09
