import BtcProofs.Lemmas.Placement
import BtcModel.Wallet.Multisig
import BtcProofs.Properties.C02
/-!
# C10 — Multisig cosigner wallets agree on scripts; exactly m distinct signers suffice

> All cosigner wallets created from the same n cosigner keys and threshold m - whichever key each
> holds privately and in whatever order the keys are supplied - derive the same redeem script and
> address for the same path. A spend becomes valid exactly when at least m distinct cosigners
> have signed, in any order and through any chain of export and import between the cosigner
> wallets; with fewer than m signatures it neither verifies nor is broadcast.

(1) The redeem script is a function of the *set* of public keys at the path: `redeemScript` of
any permutation of the keys is the same script (bytewise sorting is a total, antisymmetric
order), so the script hash and the address are the same in every cosigner wallet.
(2) The signatures of an input are the position-sorted, duplicate-free list of the cosigners
that signed: it does not depend on the signing order, signing twice changes nothing, and with the
verification loop of C02 the input verifies **iff** at least m distinct cosigners have signed.
That real wallets compute these scripts (keys re-derived with the Lean BIP32 model) and that
every hand-off form (object, dict, raw hex) carries the signer set is the correspondence run.
-/
namespace Btc.C10
open Btc.Multisig

theorem bytesLe_iff : ∀ a b : Bytes, bytesLe a b = true ↔ a ≤ b
  | [], _ => by simp [bytesLe]
  | _ :: _, [] => by simp [bytesLe]
  | x :: a, y :: b => by
    simp [bytesLe, List.cons_le_cons_iff, bytesLe_iff a b, UInt8.lt_iff_toNat_lt, UInt8.toNat_inj]

theorem bytesLe_refl : ∀ a : Bytes, bytesLe a a = true :=
  fun a => (bytesLe_iff a a).mpr (List.le_refl a)

theorem bytesLe_total (a b : Bytes) : (bytesLe a b || bytesLe b a) = true := by
  rw [Bool.or_eq_true, bytesLe_iff, bytesLe_iff]
  exact List.le_total a b

theorem bytesLe_trans (a b c : Bytes) (h1 : bytesLe a b = true) (h2 : bytesLe b c = true) :
    bytesLe a c = true :=
  (bytesLe_iff a c).mpr (List.le_trans ((bytesLe_iff a b).mp h1) ((bytesLe_iff b c).mp h2))

theorem bytesLe_antisymm (a b : Bytes) (h1 : bytesLe a b = true) (h2 : bytesLe b a = true) : a = b :=
  List.le_antisymm ((bytesLe_iff a b).mp h1) ((bytesLe_iff b a).mp h2)

/-- T1: sorting does not depend on the order in which the cosigner keys are supplied. -/
theorem sortKeys_perm (ks ks' : List Bytes) (h : ks.Perm ks') : sortKeys ks = sortKeys ks' := by
  unfold sortKeys
  apply List.Perm.eq_of_pairwise (le := fun a b => bytesLe a b = true)
  · exact fun a b _ _ => bytesLe_antisymm a b
  · exact List.pairwise_mergeSort bytesLe_trans bytesLe_total ks
  · exact List.pairwise_mergeSort bytesLe_trans bytesLe_total ks'
  · exact (List.mergeSort_perm ks bytesLe).trans (h.trans (List.mergeSort_perm ks' bytesLe).symm)

/-- T2: every cosigner wallet derives the same redeem script (hence the same script hash and
address) from the n public keys of a path, in whatever order it holds them. -/
theorem redeemScript_perm (m : Nat) (ks ks' : List Bytes) (h : ks.Perm ks') :
    redeemScript m ks = redeemScript m ks' :=
  congrArg (multisigScript m) (sortKeys_perm ks ks' h)

/-- sorting neither drops nor adds a key -/
theorem sortKeys_mem (ks : List Bytes) (k : Bytes) : k ∈ sortKeys ks ↔ k ∈ ks :=
  List.mem_mergeSort

theorem addSigner_mem (l : List Nat) (p x : Nat) : x ∈ addSigner l p ↔ x = p ∨ x ∈ l := by
  fun_induction addSigner l p with
  | case1 => simp
  | case2 => simp
  | case3 => simp
  | case4 q l p _ _ ih => rw [List.mem_cons, ih, List.mem_cons, or_left_comm]

theorem addSigner_inc (l : List Nat) (p : Nat) (h : l.Pairwise (· < ·)) : (addSigner l p).Pairwise (· < ·) := by
  fun_induction addSigner l p with
  | case1 => simp
  | case2 p q l hpq =>
    refine List.pairwise_cons.mpr ⟨fun a ha => ?_, h⟩
    rcases List.mem_cons.mp ha with rfl | ha
    · exact hpq
    · exact Nat.lt_trans hpq (List.rel_of_pairwise_cons h ha)
  | case3 => exact h
  | case4 q l p hpq hne ih =>
    rw [List.pairwise_cons] at h ⊢
    refine ⟨fun a ha => ?_, ih h.2⟩
    rcases (addSigner_mem l p a).mp ha with rfl | ha
    · omega
    · exact h.1 a ha

/-- T3: the stored signatures are the cosigners that signed: sorted by key position, no cosigner
twice, whoever signed is there and nobody else. -/
theorem signedBy_spec (order : List Nat) :
    (signedBy order).Pairwise (· < ·) ∧ ∀ x, x ∈ signedBy order ↔ x ∈ order := by
  -- from the last signer back: `signedBy (A.reverse)` inserts the head of `A` last, so no start list has to be carried along
  obtain ⟨A, rfl⟩ : ∃ A, order = A.reverse := ⟨order.reverse, order.reverse_reverse.symm⟩
  simp only [signedBy, List.foldl_reverse, List.mem_reverse]
  induction A with
  | nil => simp
  | cons p A ih => exact ⟨addSigner_inc _ p ih.1, fun x => by rw [List.foldr_cons, addSigner_mem, ih.2, List.mem_cons]⟩

theorem inc_ext {a b : List Nat} (ha : a.Pairwise (· < ·)) (hb : b.Pairwise (· < ·)) (hm : ∀ x, x ∈ a ↔ x ∈ b) : a = b :=
  List.Perm.eq_of_pairwise (fun _ _ _ _ h h' => absurd h (Nat.lt_asymm h')) ha hb
    ((List.perm_ext_iff_of_nodup (ha.imp Nat.ne_of_lt) (hb.imp Nat.ne_of_lt)).mpr hm)

/-- T4 (any order, any repetition): two signing histories by the same set of cosigners leave the
same signatures. -/
theorem signedBy_order_independent (o1 o2 : List Nat) (h : ∀ x, x ∈ o1 ↔ x ∈ o2) :
    signedBy o1 = signedBy o2 := by
  obtain ⟨i1, m1⟩ := signedBy_spec o1
  obtain ⟨i2, m2⟩ := signedBy_spec o2
  exact inc_ext i1 i2 (fun x => by rw [m1, m2, h])

/-- the verification relation of an input whose stored signature j is by the cosigner at position
`(signedBy order)[j]` -/
def okOf (order : List Nat) (j x : Nat) : Bool := (signedBy order)[j]? == some x

/-- T5 (exactly m distinct signers): with the verification loop of `Input.verify`, an m-of-n input
(1 ≤ m, all signers among the n keys) verifies **iff** at least m distinct cosigners have signed —
in any order, with any repetitions. -/
theorem valid_iff_m_signers (m n : Nat) (order : List Nat) (hm : 1 ≤ m) (hr : ∀ x ∈ order, x < n) :
    inputVerify m n (signedBy order).length (okOf order) = decide (m ≤ (signedBy order).length) := by
  obtain ⟨hinc, hmem⟩ := signedBy_spec order
  exact C02.inputVerify_sorted m n (signedBy order) hm hinc (fun x hx => hr x ((hmem x).mp hx))

/-- fewer than m distinct signers never verify, however often they sign -/
theorem fewer_signers_invalid (m n : Nat) (order : List Nat) (hm : 1 ≤ m) (hr : ∀ x ∈ order, x < n)
    (hlt : (signedBy order).length < m) : inputVerify m n (signedBy order).length (okOf order) = false := by
  rw [valid_iff_m_signers m n order hm hr]
  exact decide_eq_false (Nat.not_le.mpr hlt)

-- non-vacuity: 2-of-3, cosigners 2 and 0 sign (cosigner 2 twice)
example : signedBy [2, 0, 2] = [0, 2] := by decide +kernel
example : inputVerify 2 3 (signedBy [2, 0, 2]).length (okOf [2, 0, 2]) = true := by decide +kernel
example : inputVerify 2 3 (signedBy [1, 1]).length (okOf [1, 1]) = false := by decide +kernel

/-- T6 (placement, repair F100): the signatures `Transaction.sign` stores - the new ones at the slots
of their keys, every known one at the slot of the key it verifies under, whether or not it still
carried that key - are the cosigners that signed, each once, in key order: exactly the list
`signedBy` that T3-T5 are about, for any number of known signatures, with or without their keys. -/
theorem placeAll_eq_signedBy (n : Nat) (new known : List Nat) (h1 : ∀ p ∈ new, p < n) (h2 : ∀ p ∈ known, p < n) :
    placeAll n new known = signedBy (new ++ known) := by
  obtain ⟨hinc, hmem⟩ := signedBy_spec (new ++ known)
  rw [placeAll_eq_filter]
  refine inc_ext (List.pairwise_lt_range.filter _) hinc fun x => ?_
  rw [hmem, List.mem_append, List.mem_filter, List.mem_range, decide_eq_true_iff, and_iff_right_iff_imp]
  exact fun h => h.elim (h1 x) (h2 x)

/-- the figures of F100: 2-of-5, the cosigners at positions 3, 0 and 1 have signed and the one at
position 2 signs now - four signatures, one per signer, in key order -/
example : placeAll 5 [2] [0, 1, 3] = [0, 1, 2, 3] := by decide +kernel

/-- The loops before the repair F100, with one known signature that came without its key (the
cosigner at position 3), filled the free slots with the known signatures from the start again: the
signatures of positions 0 and 1 twice, the one of position 3 lost. -/
theorem pinned_placement_duplicates :
    placePinned 5 [2] [(0, true), (1, true), (3, false)] = [0, 1, 2, 0, 1] := by decide +kernel

end Btc.C10
