import BtcModel.Base58
import BtcModel.Bech32
import BtcProofs.Lemmas.Convert
import BtcProofs.Lemmas.Bech32
import BtcProofs.Lemmas.Bits
import BtcProofs.Lemmas.Bytes
/-!
# C11 — Checksummed text encodings are canonical and corruption is rejected

> A Base58Check string (address, WIF private key, extended key, BIP38 key) or a Bech32/Bech32m
> address is accepted only if it is the canonical encoding of its payload with a correct checksum
> and a known version or prefix, and decoding followed by re-encoding returns the identical
> string. Strings that are not valid encodings - substituted, inserted, dropped or swapped
> characters, the wrong checksum constant, mixed case in Bech32, missing leading characters -
> raise an error; none is silently mapped to a payload.
-/
namespace Btc.C11

/-- the left side is what `b58Index` unfolds to: in a table without repetitions, look-up is the partial inverse of reading -/
theorem idxOf_eq_some_iff {α : Type} [BEq α] [LawfulBEq α] {l : List α} {n : Nat} (hn : l.length = n)
    (hnd : l.Nodup) (d c : α) (i : Nat) :
    (if l.idxOf c < n then some (l.idxOf c) else none) = some i ↔ i < n ∧ l.getD i d = c := by
  subst hn
  rw [Option.ite_none_right_eq_some, Option.some.injEq]
  constructor
  · rintro ⟨hlt, rfl⟩
    exact ⟨hlt, (List.getElem_eq_getD d).symm.trans (List.getElem_idxOf hlt)⟩
  · rintro ⟨hi, rfl⟩
    rw [← List.getElem_eq_getD (h := hi) d, hnd.idxOf_getElem i hi]
    exact ⟨hi, rfl⟩

theorem mapM_eq_some_iff {α β : Type} {f : α → Option β} {g : β → α} {P : β → Prop}
    (hf : ∀ a b, f a = some b ↔ P b ∧ g b = a) :
    ∀ (l : List α) (bs : List β), l.mapM f = some bs ↔ (∀ b ∈ bs, P b) ∧ bs.map g = l
  | [], bs => by cases bs <;> simp
  | a :: l, bs => by
    simp only [List.mapM_cons, Option.bind_eq_bind, Option.bind_eq_some_iff, Option.pure_def, Option.some.injEq, hf,
      mapM_eq_some_iff hf l]
    constructor
    · rintro ⟨b, ⟨hb, rfl⟩, bs', ⟨hbs, rfl⟩, rfl⟩
      exact ⟨List.forall_mem_cons.mpr ⟨hb, hbs⟩, rfl⟩
    · rintro ⟨hP, hmap⟩
      obtain ⟨b, bs', rfl, rfl, rfl⟩ := List.map_eq_cons_iff.mp hmap
      exact ⟨b, ⟨hP b (List.mem_cons_self ..), rfl⟩, bs', ⟨fun x hx => hP x (List.mem_cons_of_mem _ hx), rfl⟩, rfl⟩

theorem b58Alphabet_distinct : b58Alphabet.length = 58 ∧ b58Alphabet.Nodup := by decide +kernel

theorem b58Index_eq_some_iff (c : Char) (i : Nat) : b58Index c = some i ↔ i < 58 ∧ b58Char i = c :=
  idxOf_eq_some_iff b58Alphabet_distinct.1 b58Alphabet_distinct.2 '?' c i

/-- T1 and T2 together: the strict decoder accepts exactly the encodings; the two directions are the two round trips of
`convert` -/
theorem b58dec_eq_some_iff_b58enc (s : List Char) (b : Bytes) : b58dec s = some b ↔ b58enc b = s := by
  simp only [b58dec, b58enc, Option.bind_eq_bind, Option.bind_eq_some_iff, Option.pure_def, Option.some.injEq,
    mapM_eq_some_iff b58Index_eq_some_iff]
  constructor
  · rintro ⟨ds, ⟨hlt, rfl⟩, rfl⟩
    rw [map_toNat_ofNat (convert_lt 58 256 (by decide) ds), convert_convert 58 256 (by decide) (by decide) ds hlt]
  · rintro rfl
    refine ⟨_, ⟨convert_lt 256 58 (by decide) _, rfl⟩, ?_⟩
    rw [convert_convert 256 58 (by decide) (by decide) _ toNat_lt_of_mem_map, map_ofNat_toNat]

/-- T1: decoding an encoded byte string returns it — every byte string, any number of leading
zero bytes. -/
theorem b58dec_b58enc (b : Bytes) : b58dec (b58enc b) = some b :=
  (b58dec_eq_some_iff_b58enc _ b).mpr rfl

/-- T2 (canonicity): an accepted string is *the* encoding of the payload it decodes to: no
padding, no dropped or extra leading `1`, no character outside the alphabet. -/
theorem b58enc_of_b58dec (s : List Char) (b : Bytes) (h : b58dec s = some b) : b58enc b = s :=
  (b58dec_eq_some_iff_b58enc s b).mp h

theorem b58checkDec_eq_some_iff (H : Bytes → Bytes) (s : List Char) (p : Bytes) :
    b58checkDec H s = some p ↔ b58checkEnc H p = s ∧ 4 ≤ (H p).length := by
  simp only [b58checkDec, b58checkEnc, Option.bind_eq_bind, Option.bind_eq_some_iff, Option.ite_none_left_eq_some,
    Option.ite_none_right_eq_some, Option.some.injEq, b58dec_eq_some_iff_b58enc]
  constructor
  · rintro ⟨raw, rfl, hlen, hchk, rfl⟩
    have := congrArg List.length hchk
    rw [List.length_drop, List.length_take] at this
    rw [← hchk, List.take_append_drop]
    exact ⟨rfl, by omega⟩
  · rintro ⟨rfl, hH⟩
    have hl : (p ++ (H p).take 4).length = p.length + 4 := by
      rw [List.length_append, List.length_take, Nat.min_eq_left hH]
    refine ⟨_, rfl, by omega, ?_, ?_⟩
    · rw [hl, Nat.add_sub_cancel, List.drop_left, List.take_left]
    · rw [hl, Nat.add_sub_cancel, List.take_left]

/-- T3a: Base58Check decode ∘ encode, for any checksum function with at least 4 output bytes. -/
theorem b58checkDec_b58checkEnc (H : Bytes → Bytes) (hH : ∀ x, 4 ≤ (H x).length) (p : Bytes) :
    b58checkDec H (b58checkEnc H p) = some p :=
  (b58checkDec_eq_some_iff H _ p).mpr ⟨rfl, hH p⟩

/-- T3b: accepted ⇒ canonical encoding with the correct checksum. -/
theorem b58checkEnc_of_b58checkDec (H : Bytes → Bytes) (s : List Char) (p : Bytes)
    (h : b58checkDec H s = some p) : b58checkEnc H p = s :=
  ((b58checkDec_eq_some_iff H s p).mp h).1

/-- the repaired `change_base(s, 58, 256, n)` is the strict decoder followed by left padding to `n` bytes -/
theorem changeBase58_false (s : List Char) (n : Nat) :
    changeBase58 false s n = (b58dec s).map fun out => List.replicate (n - out.length) 0 ++ out := by
  have : b58IndexImpl false = b58Index := by
    funext c
    rw [b58IndexImpl]
    cases b58Index c <;> rfl
  rw [changeBase58, this, b58dec]
  cases s.mapM b58Index <;> rfl

/-- the repaired `change_base(s, 58, 256)` is the strict decoder -/
theorem changeBase58_eq_b58dec (s : List Char) : changeBase58 false s 0 = b58dec s := by
  rw [changeBase58_false]
  cases b58dec s with
  | none => rfl
  | some out => rw [Option.map_some, Nat.zero_sub, List.replicate_zero, List.nil_append]

/-- F27 witness: with the lower-case retry the string `9O` decodes (as `9o`), strictly it does not -/
theorem F27_witness : changeBase58 true ['9', 'O'] 0 ≠ b58dec ['9', 'O'] := by decide +kernel

/-- F05 witness: padding to 25 bytes accepts an address whose leading `1` was dropped -/
theorem F05_witness :
    (changeBase58 false "AGNa15ZQXAZUgFiqJ2i7Z2DPU2J6hW62i".toList 25).map List.length = some 25 ∧
    (b58dec "AGNa15ZQXAZUgFiqJ2i7Z2DPU2J6hW62i".toList).map List.length = some 24 := by decide +kernel

example : b58enc [0, 0, 1] = ['1', '1', '2'] := by decide +kernel

/-- T4a: changing one value of the checksummed sequence (any position, any length) always
changes the polymod — so a string that differs from a valid one in exactly one data character
never satisfies the same checksum constant. -/
theorem polymod_single_substitution (pre post : List Nat) (a b : Nat) (ha : a < 2^30) (hb : b < 2^30)
    (hab : a ≠ b) : polymod (pre ++ a :: post) ≠ polymod (pre ++ b :: post) := by
  unfold polymod
  rw [List.foldl_append, List.foldl_append, List.foldl_cons, List.foldl_cons]
  intro h
  -- the runs over `post` start from states whose difference is that of `a` and `b`, and the step into them was from one state
  refine hab (polyStep_inj_right (foldl_polyStep_inj post ?_ h))
  rw [← polyStep_xor, Nat.xor_self]
  exact polyStep_lt (Nat.xor_lt_two_pow ha hb)

/-- corollary at the level of the address check: with the HRP and the rest fixed, at most one
value at a given position passes a given checksum constant -/
theorem checksum_single_substitution (hrp : List Char) (pre post : List Nat) (a b k : Nat)
    (hpre : ∀ v ∈ pre, v < 32) (hpost : ∀ v ∈ post, v < 32) (ha : a < 32) (hb : b < 32) (hab : a ≠ b)
    (hhrp : ∀ v ∈ hrpExpand hrp, v < 2^30)
    (hvalid : polymod (hrpExpand hrp ++ (pre ++ a :: post)) = k) :
    polymod (hrpExpand hrp ++ (pre ++ b :: post)) ≠ k := by
  rw [← hvalid, ← List.append_assoc, ← List.append_assoc]
  exact polymod_single_substitution _ post b a (Nat.lt_trans hb (by decide)) (Nat.lt_trans ha (by decide)) (Ne.symm hab)

/-- HRP expansion of printable characters yields small values (hypothesis `hhrp` above is satisfiable) -/
theorem hrpExpand_lt (hrp : List Char) (h : ∀ c ∈ hrp, c.toNat < 128) : ∀ v ∈ hrpExpand hrp, v < 2^30 := by
  intro v hv
  unfold hrpExpand at hv
  simp only [List.mem_append, List.mem_map, List.mem_singleton] at hv
  rcases hv with (⟨c, hc, rfl⟩ | rfl) | ⟨c, hc, rfl⟩
  · have := h c hc
    omega
  · decide
  · have := h c hc
    omega

/-- T4c: the 8→5 bit regrouping with padding (address encoder) followed by the strict 5→8 regrouping
(address decoder) returns the program bytes — any length. -/
theorem convertBits_roundtrip (data : List Nat) (h : ∀ v ∈ data, v < 256) :
    convertBitsNoPad 5 8 (convertBitsPad 8 5 data) = some data := by
  unfold convertBitsPad convertBitsNoPad
  simp only
  generalize hp : (5 - (toBits 8 data).length % 5) % 5 = padn
  have hlen : (toBits 8 data ++ List.replicate padn false).length = (toBits 8 data).length + padn := by
    rw [List.length_append, List.length_replicate]
  -- the padded stream is a whole number of 5-bit groups, so the decoder sees it again
  rw [(fromBits_spec 5 (by decide) (((toBits 8 data).length + padn) / 5) (by omega)).1]
  -- fewer than 5 padding bits after whole bytes: the decoder splits the stream where the encoder joined it
  have hb : (toBits 8 data).length = data.length * 8 := toBits_length 8 data
  have hfull : (toBits 8 data ++ List.replicate padn false).length / 8 * 8 = (toBits 8 data).length := by omega
  simp only [hfull, List.drop_left, List.take_left]
  rw [if_neg (by simp; exact hp ▸ Nat.mod_lt _ (by decide)), fromBits_toBits 8 (by decide) data h]

/-- the two checksum constants differ, so the Bech32 / Bech32m mix-up is a rejection -/
theorem consts_differ : bech32Const ≠ bech32mConst := by decide

/-- a BIP173 test vector, then with its last character changed and in mixed case, evaluated in the kernel -/
example : segwitDec "bc1qw508d6qejxtdg4y5r3zarvary0c5xw7kv8f3t4".toList =
    some ("bc".toList, 0, [0x75, 0x1e, 0x76, 0xe8, 0x19, 0x91, 0x96, 0xd4, 0x54, 0x94, 0x1c, 0x45, 0xd1, 0xb3, 0xa3, 0x23, 0xf1, 0x43, 0x3b, 0xd6]) := by
  decide +kernel
example : segwitDec "bc1qw508d6qejxtdg4y5r3zarvary0c5xw7kv8f3t5".toList = none := by decide +kernel
example : segwitDec "bc1qw508D6qejxtdg4y5r3zarvary0c5xw7kv8f3t4".toList = none := by decide +kernel

end Btc.C11
