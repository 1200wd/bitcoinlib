import BtcModel.KeyFormat
import BtcProofs.Properties.C11
import BtcProofs.Lemmas.Bytes
/-!
# C12 — Every key export format imports back to the same key and metadata

> Exporting any key in any supported representation (hex, bytes, integer, compressed or
> uncompressed WIF, extended private or public key with every network and witness-type prefix)
> and importing that representation yields a key with the same secret or public point,
> compression flag, chain code, depth, parent fingerprint and child number, and - when the format
> encodes it or it is supplied - the same network, witness type and multisig flag. For the
> self-describing formats (WIF, extended keys, BIP38) format detection never classifies private
> material as public or the reverse.
-/
namespace Btc.C12

/-- T1: WIF export then import returns version, secret and compression flag — every secret below
2^256 (leading zero bytes included), any one-byte version, any checksum function with at least 4 output bytes. -/
theorem wifDec_wifEnc (H : Bytes → Bytes) (hH : ∀ x, 4 ≤ (H x).length) (ver : Bytes) (hv : ver.length = 1)
    (secret : Nat) (hs : secret < 2^256) (compressed : Bool) :
    wifDec H (wifEnc H ver secret compressed) = some (ver, secret, compressed) := by
  have hs' : secret < 256 ^ 32 := by omega
  have hb : (beBytes secret 32).length = 32 := beBytes_length secret 32
  rw [wifDec, wifEnc, C11.b58checkDec_b58checkEnc H hH, List.append_assoc]
  cases compressed <;>
    simp [hv, hb, List.take_left' hv, List.drop_left' hv, List.take_left' hb, beVal_beBytes hs']

/-- F21 witness: an uncompressed WIF whose secret ends in 01 — the last-byte rule imports it as a
*different* secret and as compressed (for any checksum function with at least 4 output bytes). -/
theorem F21_witness (H : Bytes → Bytes) (hH : ∀ x, 4 ≤ (H x).length) :
    wifDecLastByte H (wifEnc H [0x80] 0x0201 false) ≠ wifDec H (wifEnc H [0x80] 0x0201 false) := by
  rw [wifDec_wifEnc H hH [0x80] rfl 0x0201 (by decide) false]
  unfold wifDecLastByte wifEnc
  rw [C11.b58checkDec_b58checkEnc H hH]
  decide +kernel

theorem xkeyOfPayload_append {v d fp c ch kd : Bytes} (hv : v.length = 4) (hd : d.length = 1) (hfp : fp.length = 4)
    (hc : c.length = 4) (hch : ch.length = 32) (hkd : kd.length = 33) :
    xkeyOfPayload (v ++ d ++ fp ++ c ++ ch ++ kd) = some ⟨beVal v, beVal d, fp, beVal c, ch, kd⟩ := by
  simp [xkeyOfPayload, List.drop_append, List.drop_eq_nil_of_le, hv, hd, hfp, hc, hch, hkd]

/-- T2: extended key export then import returns all six fields. -/
theorem xkeyDec_xkeyEnc (H : Bytes → Bytes) (hH : ∀ x, 4 ≤ (H x).length) (k : XKeyData) (hk : k.WF) :
    xkeyDec H (xkeyEnc H k) = some k := by
  obtain ⟨h1, h2, h3, h4, h5, h6⟩ := hk
  rw [xkeyDec, xkeyEnc, C11.b58checkDec_b58checkEnc H hH, Option.bind_some, xkeyPayload,
    xkeyOfPayload_append (beBytes_length ..) (beBytes_length ..) h3 (beBytes_length ..) h5 h6,
    beVal_beBytes (k := 4) (by omega), beVal_beBytes (k := 1) (by omega), beVal_beBytes (k := 4) (by omega)]

def netWifs (name : String) : List Gen.WifPrefix := ((Gen.networks.find? (·.name == name)).map (·.wifs)).getD []

/-- no 4-byte version is listed both as private and as public, in any network or across networks:
an extended key string can never be classified as the wrong kind -/
theorem version_private_public_disjoint :
    (Gen.networks.flatMap (·.wifs)).all (fun a =>
      (Gen.networks.flatMap (·.wifs)).all (fun b => a.version != b.version || a.isPrivate == b.isPrivate)) = true := by
  decide +kernel

/-- the version bytes of the main network are the published BIP32 / SLIP-132 ones -/
theorem bitcoin_versions :
    versionFor "bitcoin" true "legacy" false = some 0x0488ADE4 ∧ versionFor "bitcoin" false "legacy" false = some 0x0488B21E ∧
    versionFor "bitcoin" true "p2sh-segwit" false = some 0x049D7878 ∧ versionFor "bitcoin" false "p2sh-segwit" false = some 0x049D7CB2 ∧
    versionFor "bitcoin" true "segwit" false = some 0x04B2430C ∧ versionFor "bitcoin" false "segwit" false = some 0x04B24746 ∧
    versionFor "bitcoin" true "segwit" true = some 0x02AA7A99 ∧ versionFor "bitcoin" false "segwit" true = some 0x02AA7ED3 := by
  decide +kernel

/-- on the main network a version determines the witness type and the multisig flag except for the
legacy pair (xprv/xpub are used for single-sig and multisig alike): the pinned ambiguity set -/
theorem bitcoin_version_ambiguity :
    (netWifs "bitcoin").all (fun a => (netWifs "bitcoin").all (fun b =>
      a.version != b.version || (a.witnessType == b.witnessType && (a.multisig == b.multisig || a.witnessType == "legacy")))) = true := by
  decide +kernel

/-! ## Import decision for extended keys (`xkeyImport`, run against `HDKey(...)` / `HDKey.from_wif` on strings with a right checksum and a
wrong payload) -/

theorem xkeyImport_eq_some_iff (H : Bytes → Bytes) (s : List Char) (k : XKeyData) :
    xkeyImport H s = some k ↔ xkeyDec H s = some k ∧ versionEntries k.version ≠ [] ∧
      ∀ e ∈ versionEntries k.version, keyFieldOk e.2.isPrivate k.keyData = true := by
  unfold xkeyImport
  cases xkeyDec H s with
  | none => simp
  | some k' =>
    simp only [Option.ite_none_left_eq_some, Option.ite_none_right_eq_some, Option.some.injEq, List.isEmpty_iff,
      List.all_eq_true]
    constructor
    · rintro ⟨hv, hf, rfl⟩
      exact ⟨rfl, hv, hf⟩
    · rintro ⟨rfl, hv, hf⟩
      exact ⟨hv, hf, rfl⟩

/-- soundness: whatever is imported has a known version and a key field of the kind every table entry of that version announces -/
theorem xkeyImport_sound (H : Bytes → Bytes) (s : List Char) (k : XKeyData) (h : xkeyImport H s = some k) :
    xkeyDec H s = some k ∧ versionEntries k.version ≠ [] ∧
    ∀ e ∈ versionEntries k.version, keyFieldOk e.2.isPrivate k.keyData = true :=
  (xkeyImport_eq_some_iff H s k).mp h

/-- completeness: the export of a well-formed key whose version is in the table and whose key field is of the announced kind imports back
to exactly that key (with `xkeyDec_xkeyEnc`) -/
theorem xkeyImport_xkeyEnc (H : Bytes → Bytes) (hH : ∀ x, 4 ≤ (H x).length) (k : XKeyData) (hk : k.WF)
    (hv : versionEntries k.version ≠ []) (hf : ∀ e ∈ versionEntries k.version, keyFieldOk e.2.isPrivate k.keyData = true) :
    xkeyImport H (xkeyEnc H k) = some k :=
  (xkeyImport_eq_some_iff H _ k).mpr ⟨xkeyDec_xkeyEnc H hH k hk, hv, hf⟩

/-- a private version with a public key in the key field (finding F70) is refused -/
example : keyFieldOk true (0x02 :: List.replicate 32 0x11) = false ∧ keyFieldOk false (0x00 :: List.replicate 32 0x11) = false ∧
    keyFieldOk true (0x00 :: List.replicate 32 0x11) = true ∧ keyFieldOk false (0x03 :: List.replicate 32 0x11) = true := by decide

end Btc.C12
