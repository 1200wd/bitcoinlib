import BtcProofs.Lemmas.Der
import BtcModel.Ecdsa
import Mathlib.Algebra.Field.ZMod
import Mathlib.Algebra.Module.Basic
/-!
# C13 — ECDSA signatures are valid, canonical, deterministic; the verifier is exact

> Every signature the library produces verifies under the signer's public key with an
> independent secp256k1 ECDSA verifier, is strictly DER encoded with low S, and is a
> deterministic function of key and message whose nonce is never shared between different
> messages or keys. The library's verifier accepts a (message, signature, public key) triple
> exactly when standard ECDSA does, for well-formed and malformed inputs alike.

Algebraic part: over any `ZMod n`-module `P` (n prime) with an "x-coordinate" map `xr`; the group
facts of secp256k1 (points form a cyclic group of prime order n) are the hypotheses — they are
*not* proved here (trusted base).  Concrete part: the low-S rule, the exact locus of F10, and the strict DER
encoding read back by the strict decoder.
-/
namespace Btc.C13

section Algebra
variable {n : ℕ} [Fact n.Prime] {P : Type} [AddCommGroup P] [Module (ZMod n) P]

/-- textbook ECDSA signing with explicit nonce -/
def sign (xr : P → ZMod n) (G : P) (d k z : ZMod n) : ZMod n × ZMod n :=
  let r := xr (k • G)
  (r, k⁻¹ * (z + r * d))

/-- textbook ECDSA verification (SEC1 4.1.4) -/
def verify (xr : P → ZMod n) (G Q : P) (z r s : ZMod n) : Prop :=
  r ≠ 0 ∧ s ≠ 0 ∧ xr ((z * s⁻¹) • G + (r * s⁻¹) • Q) = r

/-- for a public key with known secret d the verifier's point u₁•G + u₂•Q is ((z + r·d)/s)•G -/
theorem verify_smul (xr : P → ZMod n) (G : P) (d z r s : ZMod n) :
    verify xr G (d • G) z r s ↔ r ≠ 0 ∧ s ≠ 0 ∧ xr (((z + r * d) * s⁻¹) • G) = r := by
  rw [verify, smul_smul, ← add_smul, mul_right_comm, ← add_mul]

/-- T1: every signature made with a non-zero nonce (and non-zero r, s — the retry conditions of
the standard) verifies under the signer's public key `d • G`. -/
theorem verify_sign (xr : P → ZMod n) (G : P) (d k z : ZMod n) (hk : k ≠ 0)
    (hr : (sign xr G d k z).1 ≠ 0) (hs : (sign xr G d k z).2 ≠ 0) :
    verify xr G (d • G) z (sign xr G d k z).1 (sign xr G d k z).2 := by
  refine (verify_smul ..).mpr ⟨hr, hs, ?_⟩
  -- (z + r·d) / s = k, since k · s = z + r·d
  exact congrArg (fun c => xr (c • G)) ((mul_inv_eq_iff_eq_mul₀ hs).mpr (mul_inv_cancel_left₀ hk _).symm)

/-- T2: the high-S twin (r, -s) of a valid signature is valid too whenever negating a point keeps
its x-coordinate — so low-S normalisation preserves validity. -/
theorem verify_neg_s (xr : P → ZMod n) (hx : ∀ p, xr (-p) = xr p) (G Q : P) (z r s : ZMod n)
    (h : verify xr G Q z r s) : verify xr G Q z r (-s) := by
  obtain ⟨hr, hs, hv⟩ := h
  refine ⟨hr, neg_ne_zero.mpr hs, ?_⟩
  -- the verifier's point for -s is the negative of the one for s
  rw [inv_neg, mul_neg, mul_neg, neg_smul, neg_smul, ← neg_add, hx]
  exact hv

end Algebra

/-- T3: the normalised value is in (0, n/2] and is s or n - s -/
theorem lowS_spec (s : Nat) (h1 : 1 ≤ s) (h2 : s < secpOrder) :
    1 ≤ lowS s ∧ lowS s ≤ secpOrder / 2 ∧ (lowS s = s ∨ lowS s = secpOrder - s) := by
  unfold lowS secpOrder at *
  split <;> omega

/-- T4 (exact locus of F10): the float threshold yields a low S **iff** the raw s is not in
(n/2, 2^255]. -/
theorem lowSFloat_low_iff (s : Nat) (h1 : 1 ≤ s) (h2 : s < secpOrder) :
    lowSFloat s ≤ secpOrder / 2 ↔ ¬ (secpOrder / 2 < s ∧ s ≤ 2^255) := by
  unfold lowSFloat secpOrder at *
  split <;> omega

/-- outside that interval both rules agree -/
theorem lowSFloat_eq_lowS (s : Nat) (h : ¬ (secpOrder / 2 < s ∧ s ≤ 2^255)) : lowSFloat s = lowS s := by
  unfold lowSFloat lowS secpOrder at *
  split <;> split <;> omega

theorem F10_witness : lowSFloat (secpOrder / 2 + 1) > secpOrder / 2 := by decide

/-- the interval is not empty: n/2 < 2^255 -/
example : secpOrder / 2 < 2^255 := by decide

/-- strict DER decoding of a known signature evaluates in the kernel -/
example : derDecode [0x30, 0x06, 0x02, 0x01, 0x01, 0x02, 0x01, 0x02] = some (1, 2) := by decide

/-- the framing of `derEncode` is read back for any two content strings that fit the one-byte lengths; the result is
accepted exactly when both pass the content rules -/
theorem derDecode_frame (rb sb : Bytes) (h : rb.length + sb.length + 4 < 256) :
    let body := [0x02, UInt8.ofNat rb.length] ++ rb ++ [0x02, UInt8.ofNat sb.length] ++ sb
    derDecode ([0x30, UInt8.ofNat body.length] ++ body) =
      if derIntOk rb && derIntOk sb then some (beVal rb, beVal sb) else none := by
  simp only [List.cons_append, List.nil_append, List.append_assoc, List.length_cons, List.length_append]
  rw [derDecode]
  -- the three length bytes hold their lengths: each is below 256 by `h`
  simp (disch := omega) only [toNat_ofNat_lt, List.drop_left, List.take_left, List.length_cons, List.length_append]
  rw [if_neg (by omega), Nat.add_sub_cancel (m := 2)]
  simp only [beq_self_eq_true, Bool.true_and]

/-- T (strict DER): decoding the DER encoding of a signature `(r, s)` with `1 ≤ r, s < 2^256`
gives back exactly `(r, s)` — in particular what the library serialises is accepted by the strict
(BIP66) decoder: minimal lengths, no negative and no zero-padded integers. -/
theorem derDecode_derEncode (r s : Nat) (hr1 : 1 ≤ r) (hr2 : r < 2 ^ 256) (hs1 : 1 ≤ s) (hs2 : s < 2 ^ 256) :
    derDecode (derEncode r s) = some (r, s) := by
  obtain ⟨rv, rl, rok⟩ := derInt_spec r hr1 hr2
  obtain ⟨sv, sl, sok⟩ := derInt_spec s hs1 hs2
  refine (derDecode_frame _ _ (by omega)).trans ?_
  rw [rok, sok, rv, sv]
  rfl

end Btc.C13
