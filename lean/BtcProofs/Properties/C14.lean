import BtcModel.Bip39
import BtcProofs.Lemmas.Bits
import BtcProofs.Lemmas.Bytes
/-!
# C14 — Mnemonic sentences follow BIP39 in every language and round-trip

> For every entropy of 128 to 256 bits and every bundled word list, the generated sentence is the
> BIP39 sentence for that entropy, converts back to the same entropy, and yields the BIP39 seed
> (PBKDF2-HMAC-SHA512 over the NFKD-normalised sentence and optional passphrase, both normalised
> as the standard prescribes). A sentence whose checksum does not match or that contains a word
> outside the list is rejected.

The theorems are about word *indices*; a word list is any list of 2048 distinct words (the
bundled lists are compared entry by entry with a frozen reference copy on every run), so index
↔ word is a bijection and the statements transfer to sentences in every language.
-/
namespace Btc.C14

theorem checksum_length (H : Bytes → Bytes) (e : Bytes) (j : Nat) (he : e.length = 4 * j) (hj : j ≤ 8) :
    (bip39Checksum H e).length = j := by
  rw [bip39Checksum, List.length_take, bitsOf_length, he, Nat.mul_div_cancel_left j (by decide), Nat.min_eq_left hj]

/-- the sentence lengths: three words (32 entropy bits and a checksum bit) for each of 4 to 8 groups of 4 bytes -/
theorem wordCount_iff (n : Nat) :
    (n == 12 || n == 15 || n == 18 || n == 21 || n == 24) = true ↔ ∃ j, 4 ≤ j ∧ j ≤ 8 ∧ n = 3 * j := by
  simp only [Bool.or_eq_true, beq_iff_eq]
  constructor
  · intro h
    exact ⟨n / 3, by omega⟩
  · rintro ⟨j, h4, h8, rfl⟩
    omega

theorem entropyLenOk_iff (n : Nat) : entropyLenOk n = true ↔ ∃ j, 4 ≤ j ∧ j ≤ 8 ∧ n = 4 * j := by
  simp only [entropyLenOk, Bool.or_eq_true, beq_iff_eq]
  constructor
  · intro h
    exact ⟨n / 4, by omega⟩
  · rintro ⟨j, h4, h8, rfl⟩
    omega

theorem bip39Indices_eq_some_iff (H : Bytes → Bytes) (e : Bytes) (idx : List Nat) :
    bip39Indices H e = some idx ↔
      (∃ j, 4 ≤ j ∧ j ≤ 8 ∧ e.length = 4 * j) ∧ fromBits 11 (toBits 8 (e.map (·.toNat)) ++ bip39Checksum H e) = idx := by
  simp only [bip39Indices, Option.ite_none_left_eq_some, Option.some.injEq, Bool.not_eq_true', Bool.not_eq_false,
    entropyLenOk_iff]

/-- what the three guards of `to_entropy` let through -/
theorem bip39Entropy_eq_some_iff (H : Bytes → Bytes) (idx : List Nat) (e : Bytes) :
    bip39Entropy H idx = some e ↔
      (∃ j, 4 ≤ j ∧ j ≤ 8 ∧ idx.length = 3 * j) ∧ (∀ i ∈ idx, i < 2048) ∧
      (toBits 11 idx).drop (idx.length * 11 * 32 / 33) = bip39Checksum H e ∧
      (fromBits 8 ((toBits 11 idx).take (idx.length * 11 * 32 / 33))).map UInt8.ofNat = e := by
  simp only [bip39Entropy, Option.ite_none_left_eq_some, Option.ite_none_right_eq_some, Option.some.injEq,
    Bool.not_eq_true', Bool.not_eq_false, wordCount_iff, List.any_eq_true, decide_eq_true_eq, beq_iff_eq, not_exists,
    not_and, Nat.not_le]
  -- the two sides differ only in how the entropy under the checksum is written
  constructor <;> rintro ⟨hj, hlt, hchk, rfl⟩ <;> exact ⟨hj, hlt, hchk, rfl⟩

/-- of the 33 `j` bits of a sentence of 3 `j` words, the first 32 `j` are the entropy -/
theorem entropyBits (j : Nat) : 3 * j * 11 * 32 / 33 = 32 * j := Nat.div_eq_of_eq_mul_left (by decide) (by omega)

/-- T1 and T4 together: the sentences `to_entropy` accepts and the entropies of the five lengths correspond one to one -/
theorem bip39Entropy_eq_some_iff_indices (H : Bytes → Bytes) (idx : List Nat) (e : Bytes) :
    bip39Entropy H idx = some e ↔ bip39Indices H e = some idx := by
  rw [bip39Entropy_eq_some_iff, bip39Indices_eq_some_iff]
  constructor
  · rintro ⟨⟨j, h4, h8, hj⟩, hlt, hchk, rfl⟩
    rw [hj, entropyBits] at hchk ⊢
    -- the entropy bits are a whole number of bytes, so they are the bits of the bytes read off them
    have htake : ((toBits 11 idx).take (32 * j)).length = (4 * j) * 8 := by
      rw [List.length_take, toBits_length, hj]
      omega
    obtain ⟨hbits, hlen, hlt8⟩ := fromBits_spec 8 (by decide) (4 * j) htake
    refine ⟨⟨j, h4, h8, by rw [List.length_map, hlen]⟩, ?_⟩
    rw [map_toNat_ofNat hlt8, hbits, ← hchk, List.take_append_drop, fromBits_toBits 11 (by decide) idx hlt]
  · rintro ⟨⟨j, h4, h8, hj⟩, rfl⟩
    have hebits : (toBits 8 (e.map (·.toNat))).length = 32 * j := by
      rw [toBits_length, List.length_map, hj]
      omega
    have hbits : (toBits 8 (e.map (·.toNat)) ++ bip39Checksum H e).length = (3 * j) * 11 := by
      rw [List.length_append, hebits, checksum_length H e j hj h8]
      omega
    obtain ⟨hrt, hlen, hlt⟩ := fromBits_spec 11 (by decide) (3 * j) hbits
    rw [hlen, hrt, entropyBits, ← hebits, List.drop_left, List.take_left,
      fromBits_toBits 8 (by decide) _ toNat_lt_of_mem_map, map_ofNat_toNat]
    exact ⟨⟨j, h4, h8, rfl⟩, hlt, rfl, rfl⟩

/-- T1: the sentence (as word indices) converts back to the entropy it was made from — for every
entropy of 16, 20, 24, 28 or 32 bytes, leading zero bytes and all-ones included, any hash. -/
theorem entropy_of_indices (H : Bytes → Bytes) (e : Bytes) (j : Nat) (he : e.length = 4 * j) (h4 : 4 ≤ j) (h8 : j ≤ 8)
    (idx : List Nat) (h : bip39Indices H e = some idx) : bip39Entropy H idx = some e :=
  (bip39Entropy_eq_some_iff_indices H idx e).mpr h

/-- non-vacuity: the all-zero 16-byte entropy with a hash whose first byte is 0x37 gives 12 indices
("abandon ×11 about" when the hash is SHA-256) -/
example : bip39Indices (fun _ => [0x37]) (List.replicate 16 0) = some [0, 0, 0, 0, 0, 0, 0, 0, 0, 0, 0, 3] := by decide +kernel

/-- T2: a sentence with an index outside the list (≥ 2048, i.e. an unknown word) is rejected -/
theorem unknown_word_rejected (H : Bytes → Bytes) (idx : List Nat) (h : ∃ i ∈ idx, i ≥ 2048) : bip39Entropy H idx = none := by
  obtain ⟨i, hi, hge⟩ := h
  exact Option.eq_none_iff_forall_ne_some.mpr fun e h' =>
    absurd (((bip39Entropy_eq_some_iff H idx e).mp h').2.1 i hi) (Nat.not_lt.mpr hge)

/-- T3: whatever is accepted carries the checksum of the entropy it yields -/
theorem accepted_has_checksum (H : Bytes → Bytes) (idx : List Nat) (e : Bytes) (h : bip39Entropy H idx = some e) :
    (toBits 11 idx).drop (idx.length * 11 * 32 / 33) = bip39Checksum H e :=
  ((bip39Entropy_eq_some_iff H idx e).mp h).2.2.1

/-- a wrong number of words is rejected -/
example (H : Bytes → Bytes) : bip39Entropy H [1, 2, 3] = none := by simp [bip39Entropy]

/-- T4: an accepted sentence is THE BIP39 sentence of the entropy it yields (with T1: entropies of the five lengths and
accepted sentences correspond one to one; nothing else is accepted) -/
theorem accepted_is_canonical (H : Bytes → Bytes) (idx : List Nat) (e : Bytes) (h : bip39Entropy H idx = some e) :
    bip39Indices H e = some idx :=
  (bip39Entropy_eq_some_iff_indices H idx e).mp h

/-- T5: two accepted sentences with the same entropy are the same sentence -/
theorem accepted_injective (H : Bytes → Bytes) (idx idx' : List Nat) (e : Bytes)
    (h : bip39Entropy H idx = some e) (h' : bip39Entropy H idx' = some e) : idx = idx' :=
  Option.some.inj ((accepted_is_canonical H idx e h).symm.trans (accepted_is_canonical H idx' e h'))

/-- T6: substituting words of an accepted sentence without touching its entropy bits (a change confined to the
checksum bits of the last word) is always rejected -/
theorem checksum_substitution_rejected (H : Bytes → Bytes) (idx idx' : List Nat) (e : Bytes)
    (h : bip39Entropy H idx = some e) (hlen : idx'.length = idx.length) (hne : idx' ≠ idx)
    (hsame : (toBits 11 idx').take (idx.length * 11 * 32 / 33) = (toBits 11 idx).take (idx.length * 11 * 32 / 33)) :
    bip39Entropy H idx' = none := by
  refine Option.eq_none_iff_forall_ne_some.mpr fun e' h' => ?_
  obtain ⟨-, -, -, e1⟩ := (bip39Entropy_eq_some_iff H idx e).mp h
  obtain ⟨-, -, -, e2⟩ := (bip39Entropy_eq_some_iff H idx' e').mp h'
  rw [hlen, hsame, e1] at e2
  subst e2
  exact hne (accepted_injective H idx' idx e h' h)

/-- non-vacuity of T6: with a hash whose first byte is 0x37 the sentence 0 ×11, 3 is accepted and 0 ×11, 4 differs from
it in checksum bits only -/
example : bip39Entropy (fun _ => [0x37]) [0, 0, 0, 0, 0, 0, 0, 0, 0, 0, 0, 3] = some (List.replicate 16 0) := by decide +kernel
example : bip39Entropy (fun _ => [0x37]) [0, 0, 0, 0, 0, 0, 0, 0, 0, 0, 0, 4] = none := by decide +kernel

end Btc.C14
