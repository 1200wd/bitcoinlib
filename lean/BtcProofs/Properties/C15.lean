import BtcModel.Bip38
/-!
# C15 — BIP38 keys decrypt only with the right passphrase; new keys use fresh entropy

> Encrypting any private key with any passphrase and decrypting with the same passphrase returns
> the same key and compression flag, in both the plain and the EC-multiplied mode, with results
> that agree with the BIP38 specification; decrypting with a different passphrase fails instead
> of returning another key. Each newly generated encrypted key draws fresh randomness, so
> separate requests never yield the same key.

The model is the byte layout of the non-EC-multiplied mode over an abstract block cipher and an
abstract scrypt (`derive`), and the entropy discipline of the generator.  The theorems hold for
every cipher with `dec (enc b) = b` on 16-byte blocks; that the concrete AES-256 of
`BtcModel/Prim/Aes.lean` and `hashlib.scrypt` produce the strings the library produces (and the
BIP38 test vectors) is the correspondence run.  The EC-multiplied mode is covered by the
correspondence run only.
-/
namespace Btc.C15

theorem xorBytes_cancel (a b : Bytes) (h : a.length = b.length) : xorBytes (xorBytes a b) b = a := by
  induction a generalizing b with
  | nil => rfl
  | cons x a ih =>
    cases b with
    | nil => cases h
    | cons y b =>
      have ih := ih b (Nat.succ.inj h)
      unfold xorBytes at ih ⊢
      rw [List.zip_cons_cons, List.map_cons, List.zip_cons_cons, List.map_cons, ih,
        UInt8.xor_assoc, UInt8.xor_self, UInt8.xor_zero]

theorem xorBytes_length (a b : Bytes) : (xorBytes a b).length = min a.length b.length := by
  simp [xorBytes]

/-- a cipher that decrypts what it encrypted, with 16-byte blocks -/
structure GoodCipher (P : Bip38Prims) : Prop where
  dec_enc : ∀ k b, b.length = 16 → P.aesDec k (P.aesEnc k b) = b
  enc_len : ∀ k b, b.length = 16 → (P.aesEnc k b).length = 16

theorem GoodCipher.block {P : Bip38Prims} (hP : GoodCipher P) (k x m : Bytes)
    (hx : x.length = 16) (hm : m.length = 16) :
    (P.aesEnc k (xorBytes x m)).length = 16 ∧
      xorBytes (P.aesDec k (P.aesEnc k (xorBytes x m))) m = x := by
  have l : (xorBytes x m).length = 16 := by rw [xorBytes_length, hx, hm, Nat.min_self]
  exact ⟨hP.enc_len k _ l, by rw [hP.dec_enc k _ l, xorBytes_cancel x m (hx.trans hm.symm)]⟩

theorem open_of_shape (P : Bip38Prims) {flag : Byte} {c : Bool} {ah A B : Bytes} (derived : Bytes)
    (hf : flagComp flag = some c) (ha : ah.length = 4) (hA : A.length = 16) (hB : B.length = 16) :
    bip38Open P (0x01 :: 0x42 :: flag :: (ah ++ (A ++ B))) derived =
      some (xorBytes (P.aesDec (derived.drop 32) A) ((derived.take 32).take 16) ++
            xorBytes (P.aesDec (derived.drop 32) B) ((derived.take 32).drop 16), c, ah) := by
  have hlen : ¬ (ah ++ (A ++ B)).length ≠ 36 := by simp [ha, hA, hB]
  have d20 : (ah ++ (A ++ B)).drop 20 = B := by
    rw [← List.append_assoc]
    exact List.drop_left' (by simp [ha, hA])
  simp only [bip38Open, if_neg hlen, hf, List.take_left' ha, List.drop_left' ha, d20, List.take_left' hA]

/-- T1 (layout round trip): opening the payload built for (secret, flag, address hash) with the
same scrypt output returns exactly these — for every 32-byte secret, both flags, every 4-byte
address hash and every 64-byte derived key. -/
theorem open_payload (P : Bip38Prims) (hP : GoodCipher P) (secret ah derived : Bytes) (c : Bool)
    (hs : secret.length = 32) (ha : ah.length = 4) (hd : derived.length = 64) :
    bip38Open P (bip38Payload P secret c ah derived) derived = some (secret, c, ah) := by
  obtain ⟨e1, r1⟩ := hP.block (derived.drop 32) (secret.take 16) ((derived.take 32).take 16)
    (by simp [hs]) (by simp [hd])
  obtain ⟨e2, r2⟩ := hP.block (derived.drop 32) (secret.drop 16) ((derived.take 32).drop 16)
    (by simp [hs]) (by simp [hd])
  have hflag : flagComp (bip38Flag c) = some c := by cases c <;> decide
  simp only [bip38Payload, List.cons_append, List.nil_append, List.append_assoc]
  rw [open_of_shape P derived hflag ha e1 e2, r1, r2, List.take_append_drop]

theorem open_shape {P : Bip38Prims} {payload derived sec ah : Bytes} {c : Bool}
    (h : bip38Open P payload derived = some (sec, c, ah)) :
    ah = (payload.drop 3).take 4 ∧ ∃ flag rest, payload = 0x01 :: 0x42 :: flag :: rest ∧ rest.length = 36 ∧
      flagComp flag = some c := by
  unfold bip38Open at h
  split at h
  · rename_i flag rest
    obtain ⟨hl, h⟩ := Option.ite_none_left_eq_some.mp h
    split at h
    · cases h
    · rename_i c' hf
      cases h
      exact ⟨rfl, flag, rest, rfl, Decidable.not_not.mp hl, hf⟩
  · cases h

/-- T2 (same passphrase): decrypting what was encrypted, with the same passphrase (`derive`),
returns the same secret and compression flag. -/
theorem decrypt_encrypt (E : Bip38Env) (hP : GoodCipher E.P) (derive : Bytes → Bytes)
    (hder : ∀ salt, (derive salt).length = 64)
    (secret ah payload : Bytes) (c : Bool) (hs : secret.length = 32)
    (hah : E.addrHashOf secret c = some ah) (hal : ah.length = 4)
    (henc : bip38Encrypt E derive secret c = some payload) :
    bip38Decrypt E derive payload = some (secret, c) := by
  unfold bip38Encrypt at henc
  rw [hah] at henc
  cases henc
  have hopen := open_payload E.P hP secret ah (derive ah) c hs hal (hder ah)
  unfold bip38Decrypt
  rw [← (open_shape hopen).1, hopen]
  simp [hah]

/-- T3 (any other passphrase, any string): whatever `bip38Decrypt` returns hashes to the address
hash committed in the payload.  A different passphrase therefore yields a key only if that key's
address has the same 4-byte hash as the original one — decryption fails rather than returning an
unrelated key (up to collisions of the 32-bit commitment that BIP38 itself specifies). -/
theorem decrypt_committed (E : Bip38Env) (derive : Bytes → Bytes) (payload sec : Bytes) (c : Bool)
    (h : bip38Decrypt E derive payload = some (sec, c)) :
    E.addrHashOf sec c = some ((payload.drop 3).take 4) ∧
    ∃ flag rest, payload = 0x01 :: 0x42 :: flag :: rest ∧ rest.length = 36 ∧ flagComp flag = some c := by
  unfold bip38Decrypt at h
  split at h
  · cases h
  · rename_i s' c' ah' ho
    obtain ⟨heq, h⟩ := Option.ite_none_right_eq_some.mp h
    cases h
    obtain ⟨rfl, hshape⟩ := open_shape ho
    exact ⟨eq_of_beq heq, hshape⟩

/-- T4 (freshness): `n` successive generator calls that each consume a draw use `n` different
draws — for every number of calls and every starting state. -/
theorem spec_calls_fresh (n : Nat) (w : World) :
    runCalls createNewSpec n w = List.range' w.next n ∧ (runCalls createNewSpec n w).Nodup := by
  have h : runCalls createNewSpec n w = List.range' w.next n := by
    induction n generalizing w with
    | zero => rfl
    | succ n ih => simp [runCalls, createNewSpec, ih, List.range'_succ]
  exact ⟨h, h ▸ List.nodup_range'⟩

/-- T5 (F11, the defect repaired by the `fix:` commit): a generator whose seed is a default
argument evaluated once repeats its first draw on every call. -/
theorem default_arg_repeats (n : Nat) (w : World) :
    runCalls createNewDefaultArg n w = List.replicate n 0 := by
  induction n generalizing w with
  | zero => rfl
  | succ n ih => simp [runCalls, createNewDefaultArg, ih, List.replicate_succ]

theorem default_arg_never_fresh (n : Nat) (hn : 2 ≤ n) (w : World) :
    ¬ (runCalls createNewDefaultArg n w).Nodup := by
  rw [default_arg_repeats, List.nodup_replicate]
  omega

theorem default_arg_not_fresh : ¬ (runCalls createNewDefaultArg 2 ⟨0⟩).Nodup :=
  default_arg_never_fresh 2 (Nat.le_refl 2) ⟨0⟩

/-- premises are satisfiable: the identity cipher is a `GoodCipher` -/
example : GoodCipher { aesEnc := fun _ b => b, aesDec := fun _ b => b } :=
  ⟨fun _ _ _ => rfl, fun _ _ h => h⟩

end Btc.C15
