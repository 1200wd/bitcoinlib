import BtcModel.Redact
import BtcModel.DbCrypt
/-!
# C16 — Public views and default exports never contain private key material

> Whatever the library presents as public - the public version of a key, a public extended key, a
> watch-only wallet export, the default dictionary, JSON, repr or printed form of keys, addresses,
> transactions and wallets - contains no private key material in any encoding (raw bytes, hex,
> integer, WIF, extended private key), also when the object is pickled or copied. With database
> field encryption switched on, no private key or private WIF is readable in plaintext in the
> database file.

Slot/taint abstraction of `Key` / `HDKey`: which attributes can hold secret-derived data after
any call history, and what `public()` clears.  The harness measures the same per attribute on
the real objects (scanning every encoding of the secret) after random histories.  The second half of the file is
the field encryption of the database (`DbCrypt.lean`): which key is selected, and what the two column types write
and read back under it.
-/
namespace Btc.C16

/-- the only slot a method call can newly taint is the `_wif` cache -/
theorem stepK_subset (hd : Bool) (t : Tainted) (op : KOp) : stepK hd t op ⊆ .wifCache :: t := by
  -- every branch of `stepK` returns `t` or `.wifCache :: t`
  fun_cases stepK hd t op <;> simp only [List.subset_cons_self, List.Subset.refl]

/-- invariant: only these slots can ever be tainted -/
def Inv (t : Tainted) : Prop := ∀ s ∈ t, s ∈ clearedByPublic

theorem inv_step (hd : Bool) (t : Tainted) (op : KOp) (h : Inv t) : Inv (stepK hd t op) := by
  intro s hs
  rcases List.mem_cons.mp (stepK_subset hd t op hs) with rfl | hs
  · decide
  · exact h s hs

/-- T1: after ANY history of method calls on a private key, only slots that `public()` clears can
hold secret-derived data. -/
theorem inv_run (hd : Bool) (h : List KOp) : Inv (runK hd initPrivate h) :=
  List.foldlRecOn (motive := Inv) h (stepK hd) (by unfold Inv; decide)
    (fun t ht op _ => inv_step hd t op ht)

/-- By T1 the public view of the object is clean, whatever was called before. -/
theorem public_clean (hd : Bool) (h : List KOp) : publicView clearedByPublic (runK hd initPrivate h) = [] := by
  rw [publicView, List.filter_eq_nil_iff]
  intro s hs
  simpa using inv_run hd h s hs

/-- F12 witness: with the clearing set of the pinned tree, exporting the WIF before taking the
public view leaves the private WIF in the "public" object. -/
theorem F12_witness : publicView clearedByPublicF12 (runK false initPrivate [.wif]) ≠ [] ∧
    publicView clearedByPublicF12 (runK true initPrivate [.info]) ≠ [] := by decide

/-- Without any prior call the public view of the pinned tree was clean too: the defect F12 needs the history. -/
example : publicView clearedByPublicF12 (runK false initPrivate []) = [] := by decide

/-! ## Database field encryption (`db.py`: `_get_encryption_key`, `EncryptedBinary`, `EncryptedString`)

"Switched on" = a key or a password is supplied in the environment (`switchedOn`).  The cipher and
the password hash are parameters: the theorems hold for every `kdf`, `enc`, `dec`; the round trips
assume only `dec k (enc k p) = some p`. -/
section DbCrypt
variable (kdf : Bytes → Bytes) (enc : Bytes → Bytes → Bytes) (dec : Bytes → Bytes → Option Bytes)

theorem isSome_of_envSet {o : Option Bytes} (h : envSet o = true) : o.isSome = true := by
  cases o with
  | none => cases h
  | some _ => rfl

/-- a key is selected exactly when field encryption is switched on -/
theorem selKey_isSome_iff (c : CryptCfg) : (selKey kdf c).isSome = switchedOn c := by
  unfold selKey switchedOn
  cases hk : envSet c.keyEnv
  · cases hp : envSet c.pwEnv
    · rfl
    · simp [isSome_of_envSet hp]
  · simp [isSome_of_envSet hk]

theorem selKey_of_off {c : CryptCfg} (h : switchedOn c = false) : selKey kdf c = none := by
  rw [← Option.isNone_iff_eq_none, ← Option.not_isSome, selKey_isSome_iff, h]
  rfl

theorem selKey_of_on {c : CryptCfg} (h : switchedOn c = true) : ∃ k, selKey kdf c = some k :=
  Option.isSome_iff_exists.mp (by rw [selKey_isSome_iff, h])

/-- The column types consult the configuration only through the selected key: the third clause of
the Python condition repeats the second. -/
theorem passThrough_eq (c : CryptCfg) (v : PyVal) :
    passThrough kdf c v = (v == .none || (selKey kdf c).isNone) := by
  rw [passThrough, ← Option.not_isSome, selKey_isSome_iff, switchedOn, Bool.or_assoc, Bool.or_self]

/-- `DB_FIELD_ENCRYPTION_KEY` wins over `DB_FIELD_ENCRYPTION_PASSWORD` -/
theorem selKey_key_wins (c : CryptCfg) (h : envSet c.keyEnv = true) : selKey kdf c = c.keyEnv := by
  simp [selKey, h]

/-- with a password only, the key is the hash of the password -/
theorem selKey_password (c : CryptCfg) (h : envSet c.keyEnv = false) (hp : envSet c.pwEnv = true) :
    selKey kdf c = c.pwEnv.map kdf := by
  simp [selKey, h, hp]

/- With `passThrough_eq` the four column functions are decision tables in `selKey kdf c` and the
kind of value; below, `simp` evaluates them once the selected key is named. -/
attribute [local simp] passThrough_eq binBind binResult strBind strResult ColRes.stored PyVal.payload

/-- **No plaintext in an encrypted column.**  With field encryption switched on, whatever is written
to a `private` (binary) or `wif` (text) column is the cipher's output under the selected key — for
every value, never the value itself.  (Text handed to the *binary* column is refused by the cipher,
`TypeError`: nothing is written.) -/
theorem bind_encrypts (c : CryptCfg) (h : switchedOn c = true) (v : PyVal) (hv : v ≠ .none) :
    ∃ k, selKey kdf c = some k ∧ strBind kdf enc c v = .val (.bytes (enc k v.payload)) ∧
      (∀ b, v = .bytes b → binBind kdf enc c v = .val (.bytes (enc k b))) ∧
      (∀ t, v = .str t → binBind kdf enc c v = .cipherErr) := by
  obtain ⟨k, hk⟩ := selKey_of_on kdf h
  refine ⟨k, hk, ?_, ?_, ?_⟩
  · simp [hk, hv]
  · rintro b rfl
    simp [hk]
  · rintro t rfl
    simp [hk]

/-- `None` stays `None` (a key row without private part) -/
theorem bind_none (c : CryptCfg) : binBind kdf enc c .none = .val .none ∧ strBind kdf enc c .none = .val .none := by
  simp

/-- what was written to a binary column under `c` is read back unchanged under every configuration
that selects the same key (the same key by another route, another `enabled` switch, none at all) -/
theorem bin_write_read (hdec : ∀ k p, dec k (enc k p) = some p) (c c' : CryptCfg)
    (hc : selKey kdf c' = selKey kdf c) (b : Bytes) :
    binResult kdf dec c' (binBind kdf enc c (.bytes b)).stored = .val (.bytes b) := by
  cases hk : selKey kdf c <;> simp [hc, hk, hdec]

theorem str_write_read (hdec : ∀ k p, dec k (enc k p) = some p) (c c' : CryptCfg)
    (hc : selKey kdf c' = selKey kdf c) (s : Bytes) :
    strResult kdf dec c' (strBind kdf enc c (.str s)).stored = .val (.str s) := by
  cases hk : selKey kdf c <;> simp [hc, hk, hdec]

/-- what was written to a binary column is read back unchanged, with or without encryption -/
theorem bin_roundtrip (hdec : ∀ k p, dec k (enc k p) = some p) (c : CryptCfg) (b : Bytes) :
    binResult kdf dec c (binBind kdf enc c (.bytes b)).stored = .val (.bytes b) :=
  bin_write_read kdf enc dec hdec c c rfl b

/-- what was written to a text column is read back unchanged, with or without encryption -/
theorem str_roundtrip (hdec : ∀ k p, dec k (enc k p) = some p) (c : CryptCfg) (s : Bytes) :
    strResult kdf dec c (strBind kdf enc c (.str s)).stored = .val (.str s) :=
  str_write_read kdf enc dec hdec c c rfl s

/-- a text column written while a key was configured is refused, not returned as if it were the
text, when the database is opened without key -/
theorem str_read_without_key (c c' : CryptCfg) (h : switchedOn c = true) (h' : switchedOn c' = false) (s : Bytes) :
    strResult kdf dec c' (strBind kdf enc c (.str s)).stored = .raises := by
  obtain ⟨k, hk⟩ := selKey_of_on kdf h
  simp [hk, selKey_of_off kdf h']

/-- reading with another key: whatever the cipher refuses is refused (no value is made up) -/
theorem wrong_key_refused (c c' : CryptCfg) (h : switchedOn c = true) (h' : switchedOn c' = true) (v : PyVal) (hv : v ≠ .none)
    (hauth : ∀ k k' p, selKey kdf c = some k → selKey kdf c' = some k' → k ≠ k' → dec k' (enc k p) = none)
    (hne : selKey kdf c ≠ selKey kdf c') :
    (∀ b, v = .bytes b → binResult kdf dec c' (binBind kdf enc c v).stored = .cipherErr) ∧
      strResult kdf dec c' (strBind kdf enc c v).stored = .cipherErr := by
  obtain ⟨k, hk⟩ := selKey_of_on kdf h
  obtain ⟨k', hk'⟩ := selKey_of_on kdf h'
  have hd (p : Bytes) : dec k' (enc k p) = none :=
    hauth k k' p hk hk' (by simpa [hk, hk'] using hne)
  constructor
  · rintro b rfl
    simp [hk, hk', hd]
  · simp [hk, hk', hv, hd]

/-- the `database_encryption_enabled` switch of config.ini alone encrypts nothing: values are stored
as they are and the only effect is the warning (documented: the key has to be in the environment) -/
theorem enabled_without_key (c : CryptCfg) (h : switchedOn c = false) (v : PyVal) :
    binBind kdf enc c v = .val v ∧ strBind kdf enc c v = .val v ∧ warns c = c.enabled := by
  have hk := selKey_of_off kdf h
  refine ⟨by simp [hk], by simp [hk], ?_⟩
  unfold warns
  rw [show (envSet c.keyEnv || envSet c.pwEnv) = false from h, Bool.not_false, Bool.and_true]

/-- the hypotheses are satisfiable: a key, a password, both (the key wins), neither -/
example : switchedOn ⟨false, some [1, 2], none⟩ = true ∧ switchedOn ⟨false, none, some [3]⟩ = true ∧
    selKey (fun p => p ++ p) ⟨false, some [1, 2], some [3]⟩ = some [1, 2] ∧
    selKey (fun p => p ++ p) ⟨false, some [], some [3]⟩ = some [3, 3] ∧
    switchedOn ⟨true, some [], none⟩ = false := by decide

end DbCrypt

end Btc.C16
