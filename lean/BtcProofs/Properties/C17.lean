import BtcModel.Amount
import Mathlib.Tactic.Ring
import Mathlib.Tactic.Linarith
import Mathlib.Tactic.NormNum
import Mathlib.Tactic.Positivity
import Mathlib.Algebra.Order.Field.Rat
import Mathlib.Data.Rat.Floor
/-!
# C17 — Amount conversion is exact to the smallest unit

> Converting a monetary amount between its textual or decimal form and the integer number of
> smallest units is exact for every amount up to the total supply, every supported denominator
> and every network: no amount is off by even one unit, and formatting an amount then parsing it
> returns the same integer. Amounts placed in transaction outputs and fees are always
> non-negative integers of the smallest unit.

The library computes with binary floating point.  `BtcModel/F64.lean` models binary64 exactly on
rationals (validated against CPython on every run).  The theorems are stated for ANY
rounding function obeying the standard model of floating-point arithmetic (relative error at
most 2^-53 per operation) — binary64 round-to-nearest is one — and ANY denominator constant; the
text → integer direction (second part) needs two further facts about round-to-nearest.
-/
namespace Btc.C17

/-- standard model of floating-point arithmetic: `fl x = x (1 + e)` with `|e| ≤ 2^-53` -/
def StdModel (fl : ℚ → ℚ) : Prop := ∀ x : ℚ, ∃ e : ℚ, |e| ≤ 1 / 2 ^ 53 ∧ fl x = x * (1 + e)

/-- The inequality behind both pipelines.  A value y within A of n, divided by a constant with relative error e₀ and
rounded with relative error e₃ — `y / (1+e₀) · (1+e₃)` — stays strictly within 1/2 of n once
`A + (N + A) u₃ + N u₀ < (1 - u₀)/2` for bounds uᵢ on the |eᵢ| and N on n. -/
theorem three_errors {n N y A e0 e3 u0 u3 : ℚ} (hn0 : 0 ≤ n) (hnN : n ≤ N)
    (hy : |y - n| ≤ A) (h0 : |e0| ≤ u0) (h3 : |e3| ≤ u3)
    (hB : A + (N + A) * u3 + N * u0 < 1 / 2 * (1 - u0)) :
    |y / (1 + e0) * (1 + e3) - n| < 1 / 2 := by
  -- times 1 + e₀ the distance is (y - n)(1 + e₃) + n (e₃ - e₀)
  have hb : |(y - n) * (1 + e3) + n * (e3 - e0)| ≤ A * (1 + u3) + N * (u3 + u0) := by
    refine (abs_add_le _ _).trans (add_le_add ?_ ?_)
    · rw [abs_mul]
      exact mul_le_mul hy ((abs_add_le _ _).trans (add_le_add abs_one.le h3)) (abs_nonneg _) ((abs_nonneg _).trans hy)
    · rw [abs_mul, abs_of_nonneg hn0]
      exact mul_le_mul hnN ((abs_sub _ _).trans (add_le_add h3 h0)) (abs_nonneg _) (hn0.trans hnN)
  -- hB has a non-negative left side, so it forces u0 < 1
  have hpos : 0 < 1 + e0 := by
    linarith [neg_abs_le e0, abs_nonneg ((y - n) * (1 + e3) + n * (e3 - e0))]
  rw [div_mul_eq_mul_div, div_sub' hpos.ne', abs_div, abs_of_pos hpos, div_lt_iff₀ hpos,
    show y * (1 + e3) - (1 + e0) * n = (y - n) * (1 + e3) + n * (e3 - e0) by ring]
  linarith only [hb, hB, h0, neg_abs_le e0]

/-- T1: `Value.from_satoshi(n).value_sat` — `fl(fl(n·d)/d)` — lies strictly within 1/2 of n for
every n ≤ 21·10^14, every non-zero denominator constant d (so the error of the literal `1e-08`
cancels) and every `fl` obeying the standard model.  Rounding to the nearest integer then
returns exactly n. -/
theorem from_satoshi_value_sat_close (fl : ℚ → ℚ) (hfl : StdModel fl) (d : ℚ) (hd : d ≠ 0) (n : ℕ)
    (hn : n ≤ 2100000000000000) :
    |fl (fl ((n : ℚ) * d) / d) - n| < 1 / 2 := by
  obtain ⟨e1, he1, h1⟩ := hfl ((n : ℚ) * d)
  obtain ⟨e3, he3, h3⟩ := hfl (fl ((n : ℚ) * d) / d)
  have hN : (n : ℚ) ≤ 2100000000000000 := by exact_mod_cast hn
  have hy : |(n : ℚ) * (1 + e1) - n| ≤ 2100000000000000 * (1 / 2^53) := by
    rw [mul_add, mul_one, add_sub_cancel_left, abs_mul, Nat.abs_cast]
    exact mul_le_mul hN he1 (abs_nonneg _) (by norm_num)
  rw [h3, h1, mul_right_comm, mul_div_cancel_right₀ _ hd]
  -- no constant error: e₀ = 0; the side condition is 21·10^14 · (2u + u²) < 1/2
  simpa only [add_zero, div_one] using
    three_errors (e0 := 0) (u0 := 0) (Nat.cast_nonneg n) hN hy abs_zero.le he3 (by norm_num)

/-- a rational strictly within 1/2 of an integer rounds to it: no tie arises, so the rounding mode does not matter -/
theorem nearest_int_of_close (y : ℚ) (n : ℤ) (h : |y - n| < 1 / 2) :
    ⌊y + 1 / 2⌋ = n := by
  obtain ⟨h1, h2⟩ := abs_sub_lt_iff.mp h
  rw [← round_eq, round_eq_iff]
  exact ⟨(sub_lt_comm.mp h2).le, sub_lt_iff_lt_add'.mp h1⟩

/-- T2: hence integer → Value → integer is the identity up to the total supply. -/
theorem value_sat_exact (fl : ℚ → ℚ) (hfl : StdModel fl) (d : ℚ) (hd : d ≠ 0) (n : ℕ) (hn : n ≤ 2100000000000000) :
    ⌊fl (fl ((n : ℚ) * d) / d) + 1 / 2⌋ = (n : ℤ) := by
  apply nearest_int_of_close
  rw [Int.cast_natCast]
  exact from_satoshi_value_sat_close fl hfl d hd n hn

/-- the bound is not vacuous and not far from tight: 21·10^14 · (2u + u²) ≈ 0.466 < 1/2, while it
would fail for amounts above 2.26·10^15 -/
example : (2100000000000000 : ℚ) * (2 / 2^53 + 1 / 2^106) < 1 / 2 := by norm_num
example : ¬ ((2260000000000000 : ℚ) * (2 / 2^53 + 1 / 2^106) < 1 / 2) := by norm_num

/-- the identity function satisfies the standard model (non-vacuity of the hypothesis) -/
example : StdModel id := fun x => ⟨0, by norm_num, by simp⟩

/-! ## Text → integer (`value_to_satoshi('<decimal> BTC')`)

`Value('<x> BTC')` computes `float(x) * 1`, and `value_sat` divides by the literal `1e-08` and rounds.  That is three
rounding errors (the parse, the literal, the division), too many for the standard model alone at the top of the supply
range: 3·2^-53·21·10^14 > 1/2.  Two facts about round-to-nearest close the gap: the literal `1e-08` is much closer to
10^-8 than half an ulp (`lit1em8_close`, a computation), and the parse of an amount below 2^25 coins is off by at most
half an ulp of that binade, 2^-29 coins or 0.19 satoshi (`BinadeModel`).  Strings with another denominator symbol
(`mBTC`, `µBTC`, …) used to multiply by one more inexact constant (finding F52: off by one satoshi for large amounts);
since the repair the library forms the decimal product exactly and rounds it once, which is the same pipeline with
x = n / 10^8 the product, so the theorem covers them too. -/

/-- round-to-nearest: below 2^k the absolute error is at most half a unit in the last place of that binade -/
def BinadeModel (fl : ℚ → ℚ) : Prop := ∀ (x : ℚ) (k : ℕ), |x| < 2 ^ k → |fl x - x| ≤ 2 ^ k / 2 ^ 54

/-- the binary64 literal `1e-08` (written out in `BtcModel/Amount.lean`, compared with the binary64 model and with CPython by
the driver op `amt_lit`) is within relative distance 2^-55 of 10^-8 -/
theorem lit1em8_close : ∃ e0 : ℚ, |e0| ≤ 1 / 2^55 ∧ Btc.lit1em8 = 1 / 10^8 * (1 + e0) := by
  refine ⟨Btc.lit1em8 * 10^8 - 1, ?_, ?_⟩
  · unfold Btc.lit1em8; rw [abs_le]; constructor <;> norm_num
  · unfold Btc.lit1em8; norm_num

/-- T3: text → integer.  For every whole number of satoshi n ≤ 21·10^14 written as a decimal number of coins x = n / 10^8,
`round(float(x) * 1 / 1e-08)` lies strictly within 1/2 of n — for every rounding function that obeys the standard model and
the half-ulp bound and leaves representable numbers alone, and every constant `d` as close to 10^-8 as the literal is. -/
theorem parse_value_sat_close (fl : ℚ → ℚ) (hfl : StdModel fl) (hbin : BinadeModel fl) (hidem : ∀ x, fl (fl x) = fl x) (d : ℚ)
    (hd : ∃ e0 : ℚ, |e0| ≤ 1 / 2^55 ∧ d = 1 / 10^8 * (1 + e0)) (n : ℕ) (hn : n ≤ 2100000000000000) :
    |fl (fl (fl ((n : ℚ) / 10^8) * 1) / d) - n| < 1 / 2 := by
  rw [mul_one, hidem]
  obtain ⟨e0, he0, rfl⟩ := hd
  obtain ⟨e3, he3, h3⟩ := hfl (fl ((n : ℚ) / 10^8) / (1 / 10^8 * (1 + e0)))
  have hN : (n : ℚ) ≤ 2100000000000000 := by exact_mod_cast hn
  have hx : |(n : ℚ) / 10^8| < 2^25 := by
    rw [abs_of_nonneg (by positivity), div_lt_iff₀ (by norm_num)]
    exact hN.trans_lt (by norm_num)
  -- in satoshi the parse is off by at most 10^8 · 2^-29 < 0.19, whatever n
  have hy : |fl ((n : ℚ) / 10^8) * 10^8 - n| ≤ 2^25 / 2^54 * 10^8 := by
    have h8 : (0 : ℚ) < 10^8 := by norm_num
    have hsub (c : ℚ) (hc : c ≠ 0) : fl (n / c) * c - n = (fl (n / c) - n / c) * c := by
      rw [sub_mul, div_mul_cancel₀ _ hc]
    rw [hsub _ h8.ne', abs_mul, abs_of_pos h8]
    exact mul_le_mul_of_nonneg_right (hbin _ 25 hx) h8.le
  rw [h3, ← div_div, one_div, div_inv_eq_mul]
  exact three_errors (Nat.cast_nonneg n) hN hy he0 he3 (by norm_num)

/-- T4: hence the decimal text of every amount up to the total supply converts to exactly that many satoshi -/
theorem parse_value_sat_exact (fl : ℚ → ℚ) (hfl : StdModel fl) (hbin : BinadeModel fl) (hidem : ∀ x, fl (fl x) = fl x)
    (n : ℕ) (hn : n ≤ 2100000000000000) :
    ⌊fl (fl (fl ((n : ℚ) / 10^8) * 1) / Btc.lit1em8) + 1 / 2⌋ = (n : ℤ) := by
  apply nearest_int_of_close
  rw [Int.cast_natCast]
  exact parse_value_sat_close fl hfl hbin hidem _ lit1em8_close n hn

/-- the hypotheses are satisfiable together -/
example : StdModel id ∧ BinadeModel id ∧ ∀ x : ℚ, id (id x) = id x :=
  ⟨fun x => ⟨0, by norm_num, by simp⟩, fun x k _ => by simp; positivity, fun _ => rfl⟩

end Btc.C17
