import BtcModel.Wire
import BtcProofs.Lemmas.CompactSize
import BtcProofs.Lemmas.ScriptNum
import BtcProofs.Lemmas.Pushes
/-!
# C18 — Wire primitives (CompactSize, script numbers, pushes) are canonical, round-trip

> The low-level encodings every serialization relies on - CompactSize integers, script numbers
> and script data pushes - decode back to the value encoded, always use the shortest form that
> Bitcoin nodes require, and agree with the protocol definition at every size boundary. Parsing
> a script built from any sequence of opcodes and data items and serializing it again
> reproduces the same bytes and the same items.
-/
namespace Btc.C18

/-- T1: decoding the canonical encoding gives back the value and the consumed length,
whatever follows it in the stream. -/
theorem csDec_csEnc (n : Nat) (e : Bytes) (h : csEnc n = some e) (r : Bytes) :
    csDec (e ++ r) = (n, e.length) := by
  rcases csEnc_eq_some_iff.mp h with ⟨h1, rfl⟩ | ⟨h1, h2, rfl⟩ | ⟨h1, h2, rfl⟩ | ⟨h1, h2, rfl⟩
  · simp [csDec, toNat_ofNat_lt (by omega : n < 256), h1]
  all_goals simp [csDec, leVal_leBytes]; omega

theorem csEnc_isSome_iff (n : Nat) : (csEnc n).isSome ↔ n < 2^64 := csEnc_isSome

/-- T2 (canonicity): a canonical prefix is *the* encoding of the value it decodes to —
there is exactly one accepted spelling of every count. -/
theorem csEnc_of_canonical (b : Bytes) (h : csCanonical b = true) :
    csEnc (csDec b).1 = some (b.take (csDec b).2) := by
  match b with
  | [] => simp [csCanonical] at h
  | x :: rest =>
    have l2 := leVal_take_lt rest 2
    have l4 := leVal_take_lt rest 4
    have l8 := leVal_take_lt rest 8
    have hx : x.toNat < 253 ∨ x = 0xfd ∨ x = 0xfe ∨ x = 0xff := by
      have := x.toNat_lt
      simp only [← UInt8.toNat_inj]
      simp; omega
    rw [csEnc_eq_some_iff]
    rcases hx with h1 | rfl | rfl | rfl
    · simp [csDec, h1]
    all_goals
      -- `h` becomes: the length field is all there ∧ its value is above the range of the shorter forms
      simp [csCanonical] at h
      simp [csDec, leBytes_leVal_take h.1]
      omega

theorem csCanonical_csEnc (n : Nat) (e : Bytes) (h : csEnc n = some e) (r : Bytes) :
    csCanonical (e ++ r) = true := by
  rcases csEnc_eq_some_iff.mp h with ⟨h1, rfl⟩ | ⟨h1, h2, rfl⟩ | ⟨h1, h2, rfl⟩ | ⟨h1, h2, rfl⟩
  · simp [csCanonical, toNat_ofNat_lt (by omega : n < 256), h1]
  all_goals simp [csCanonical, leVal_leBytes]; omega

/-- boundary table (the sizes Bitcoin nodes require) -/
theorem csEnc_length (n : Nat) (e : Bytes) (h : csEnc n = some e) :
    e.length = if n < 0xfd then 1 else if n ≤ 0xffff then 3 else if n ≤ 0xffffffff then 5 else 9 := by
  have := csEnc_eq_some_iff.mp h
  grind [leBytes_length]

/-- T3a: the repaired implementation is the specification. -/
theorem csEncImpl_none (n : Nat) : csEncImpl Dev.none n = csEnc n := by
  simp [csEncImpl, csEnc, Dev.none]

/-- witnesses of F01 (replayed against the real code on every run) -/
theorem F01_witness_ffff : csEncImpl { varintLt := true } 0xffff ≠ csEnc 0xffff := by decide
theorem F01_witness_ffffffff : csEncImpl { varintLt := true } 0xffffffff ≠ csEnc 0xffffffff := by decide

/-- T3b: the implementation *as found* (finding F01) agrees with the specification exactly
outside {0xffff, 0xffffffff}. -/
theorem csEncImpl_varintLt_iff (n : Nat) :
    csEncImpl { varintLt := true } n = csEnc n ↔ (n ≠ 0xffff ∧ n ≠ 0xffffffff) := by
  constructor
  · intro heq
    exact ⟨fun hn => F01_witness_ffff (hn ▸ heq), fun hn => F01_witness_ffffffff (hn ▸ heq)⟩
  · intro ⟨h1, h2⟩
    -- away from the two boundaries the strict comparisons of the pinned tree decide like the non-strict ones
    have e1 : (n < 0xffff) = (n ≤ 0xffff) := by simp [Nat.lt_iff_le_and_ne, h1]
    have e2 : (n < 0xffffffff) = (n ≤ 0xffffffff) := by simp [Nat.lt_iff_le_and_ne, h2]
    simp only [csEncImpl, csEnc, if_true, e1, e2]

/-- `varstr` repaired = spec; with the special case of F02 as found it differs exactly on the one string `00` -/
theorem varstrImpl_none (s : Bytes) : varstrImpl Dev.none s = varstr s := by
  rw [varstrImpl, csEncImpl_none]
  rfl

theorem varstrImpl_varstrZero_iff (s : Bytes) :
    varstrImpl { varstrZero := true } s = varstr s ↔ s ≠ [0] := by
  constructor
  · rintro h rfl
    exact absurd h (by decide)
  · intro hs
    have : (s == [0]) = false := by simpa using hs
    simp [varstrImpl, this, varstr, csEncImpl, csEnc]

example : varstrImpl { varstrZero := true } [0] ≠ varstr [0] := by decide

/-- T4a: decoding an encoded script number gives the number, for every integer. -/
theorem decodeNum_encodeNum (z : Int) : decodeNum (encodeNum z) = z := by
  unfold encodeNum
  split
  · rename_i h; subst h; rfl
  · rw [decodeNum, decMag_encMag]
    simp only [decide_eq_true_eq]
    split <;> omega

/-- T4b: the encoding is the minimal one consensus demands (`fRequireMinimal`). -/
theorem numMinimal_encodeNum (z : Int) : numMinimal (encodeNum z) = true := by
  unfold encodeNum
  split
  · rfl
  · exact numMinimal_encMag _ _ (by omega)

/-- T4c: a minimal byte string is the encoding of the number it decodes to — one spelling
per number. -/
theorem encodeNum_decodeNum (b : Bytes) (h : numMinimal b = true) : encodeNum (decodeNum b) = b := by
  obtain ⟨z, rfl⟩ := exists_encodeNum_of_minimal b h
  rw [decodeNum_encodeNum]

/-- T4d: the 4-byte operand rule corresponds to |z| < 2^31. -/
theorem encodeNum_length_le_4 (z : Int) : (encodeNum z).length ≤ 4 ↔ z.natAbs < 2^31 := by
  unfold encodeNum
  split
  · rename_i h; subst h; simp
  · exact encMag_length_le _ _ 3

/-- the sign-bit edges -/
example : encodeNum 127 = [0x7f] ∧ encodeNum 128 = [0x80, 0x00] ∧ encodeNum (-127) = [0xff]
    ∧ encodeNum (-128) = [0x80, 0x80] ∧ encodeNum 32767 = [0xff, 0x7f]
    ∧ encodeNum 32768 = [0x00, 0x80, 0x00] ∧ encodeNum (-32768) = [0x00, 0x80, 0x80] := by decide +kernel

/-- T5: `data_pack` uses the shortest push form consensus accepts for the length. -/
theorem dataPack_shortest (d p : Bytes) (h : dataPack d = some p) :
    p.length = d.length + (if d.length ≤ 75 then 1 else if d.length ≤ 255 then 2 else 3) := by
  have := dataPack_eq_some_iff.mp h
  grind [leBytes_length]

theorem dataPack_isSome_iff (d : Bytes) : (dataPack d).isSome ↔ d.length ≤ 65535 := dataPack_isSome

/-- T6: a script built from any sequence of (non-push) opcodes and data items of 1..65535
bytes serialises, and the consensus tokeniser reads the bytes back to the same items. -/
theorem tokenize_serialize (cs : List Cmd) (h : ∀ c ∈ cs, c.WF) :
    ∃ bs, serialize cs = some bs ∧ tokenize bs = some cs := by
  refine (read_serialize tokF (fun f => by cases f <;> rfl) (fun f b rest hb => ?_) (fun f d p r hd hp => ?_) cs h).imp
    fun bs hbs => ⟨hbs.1, hbs.2 0⟩
  · have hb : b.toNat = 0 ∨ b.toNat > 0x4e := hb
    simp only [tokF, pushHdrSpec, if_pos hb]
  · obtain ⟨b, hdr, rfl, hs, _⟩ := pack_shape hp hd.1
    simp [tokF, hs r]
    omega

/-- T6': the library's command reader (heuristics aside) reads the serialisation of T6 back too. -/
theorem parseImpl_serialize (cs : List Cmd) (h : ∀ c ∈ cs, c.WF) :
    ∃ bs, serialize cs = some bs ∧ parseImpl bs = some cs := by
  refine (read_serialize parseF (fun f => by cases f <;> rfl) (fun f b rest hb => ?_) (fun f d p r hd hp => ?_) cs h).imp
    fun bs hbs => ⟨hbs.1, hbs.2 0⟩
  · have hb : b.toNat = 0 ∨ b.toNat > 0x4e := hb
    simp only [parseF, pushHdrImpl, if_neg (by omega : ¬ (1 ≤ b.toNat ∧ b.toNat ≤ 75)), if_neg (by omega : ¬ b.toNat = 0x4c),
      if_neg (by omega : ¬ b.toNat = 0x4d), if_true, List.drop_zero]
  · obtain ⟨b, hdr, rfl, _, hi⟩ := pack_shape hp hd.1
    have hn : d.length ≠ 0 := by have := hd.1; omega
    simp [parseF, hi r, hn]
    omega

/-- Hence parse-then-serialise reproduces the same bytes and the same items (from T6'). -/
theorem serialize_parse_serialize (cs : List Cmd) (h : ∀ c ∈ cs, c.WF) :
    ∃ bs cs', serialize cs = some bs ∧ parseImpl bs = some cs' ∧ cs' = cs ∧ serialize cs' = some bs := by
  obtain ⟨bs, h1, h2⟩ := parseImpl_serialize cs h
  exact ⟨bs, cs, h1, h2, rfl, h1⟩

/-- the empty data item is spelled `OP_0` (one token, `op 0`) -/
example : serialize [Cmd.data []] = serialize [Cmd.op 0] := by decide

/-- non-vacuity: a P2PKH-shaped command list is well-formed -/
example : ∀ c ∈ [Cmd.op 0x76, Cmd.op 0xa9, Cmd.data (List.replicate 20 7), Cmd.op 0x88, Cmd.op 0xac],
    c.WF := by decide

end Btc.C18
