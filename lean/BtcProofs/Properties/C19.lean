import BtcModel.Script.Spec
import BtcModel.Script.Impl
import BtcModel.Gen.Opcodes
/-!
# C19 — Script evaluation agrees with Bitcoin consensus for the implemented opcodes

> Evaluating a script gives the result Bitcoin's consensus interpreter gives for the opcodes the
> library implements: the same final stack and the same success or failure, including operand
> order of arithmetic and comparison opcodes, stack manipulation, conditionals, hashing and
> signature checks. A script that consensus rejects is never reported as valid.

`Script/Spec.lean` is a transcription of consensus `EvalScript`; `Script/Impl.lean` is a
transcription of `Script.evaluate` / `Stack.op_*` as they are (after the recorded repairs).  The
differential run checks on every generated program that the library equals `Spec`, or equals `Impl`
and a listed deviation (F13.*) is involved.  Here: the exact agreeing fragment.
-/
namespace Btc.C19
open Btc.Script

/-- consensus outcome as a library outcome: failure is "method returned False", never an escaping exception -/
def optToOut : Option Stack → Out
  | some s => .ok s
  | none => .no

/-- opcodes on which the library's method and consensus agree on **every** stack -/
def agreeOps : List Nat :=
  [OP_0, OP_1NEGATE, 81, 82, 83, 84, 85, 86, 87, 88, 89, 90, 91, 92, 93, 94, 95, 96, OP_NOP, OP_NOP1, 179, 180, 181, 182, 183, 184, 185, OP_VERIFY, OP_RETURN, OP_2DROP, OP_2DUP, OP_3DUP, OP_2OVER, OP_2ROT, OP_IFDUP, OP_DEPTH, OP_DROP, OP_DUP, OP_NIP, OP_OVER, OP_ROT, OP_SWAP, OP_SIZE, OP_RIPEMD160, OP_SHA1, OP_SHA256, OP_HASH160, OP_HASH256, OP_EQUAL, OP_EQUALVERIFY, OP_1ADD, OP_1SUB, OP_NEGATE, OP_ABS, OP_NOT, OP_0NOTEQUAL, OP_ADD, OP_BOOLAND, OP_BOOLOR, OP_NUMEQUAL, OP_NUMNOTEQUAL, OP_MIN, OP_MAX]

theorem boolItem_eq_numItem (p : Prop) [Decidable p] : boolItem p = numItem (if p then 1 else 0) := by
  by_cases h : p <;> simp [h, boolItem, numItem, encodeNum, encMag]

theorem boolItem_congr {p q : Prop} [Decidable p] [Decidable q] (h : p ↔ q) : boolItem p = boolItem q :=
  congrArg boolItem (decide_eq_decide.mpr h)

theorem unary_agree (f : Int → Int) {g : Int → Bytes} (hfg : ∀ x, g x = numItem (f x)) (s : Stack) :
    unaryI g s = optToOut (unary f s) := by
  unfold unaryI unary isArith num4
  cases s with
  | nil => rfl
  | cons a rest =>
    have hl : ¬ (rest.length + 1 < 1) := by omega
    by_cases h : a.length ≤ 4 <;> simp [h, hl, optToOut, hfg]

/-- The library pops the top operand first, consensus computes `f second top`: on a symmetric `f` the two agree
(`F13_sub` below is the case of one that is not). -/
theorem binary_agree {f : Int → Int → Bytes} (hf : ∀ x y, f y x = f x y) (s : Stack) :
    binaryI f s = optToOut (binary f s) := by
  unfold binaryI binary isArith num4
  match s with
  | [] => rfl
  | [a] => rfl
  | b :: a :: rest =>
    have hl : ¬ (rest.length + 1 + 1 < 2) := by omega
    by_cases hb : b.length ≤ 4 <;> by_cases ha : a.length ≤ 4 <;> simp [ha, hb, hl, optToOut, hf, bind, Option.bind]

theorem verifyI_cons (a : Bytes) (rest : Stack) :
    verifyI (a :: rest) = optToOut (if castToBool a then some rest else none) := by
  by_cases h : castToBool a <;> simp [verifyI, h, optToOut]

/-! For a literal opcode both `implOp env n s` and `execOp env n s` evaluate (the guards `n = OP_x` are decided), so
each agreement below is stated for a list of opcodes, split into its members, and proved at the literal. -/

/-- constants, no-ops, stack manipulation, SIZE and the hashes -/
def evalOps : List Nat :=
  [OP_0, OP_1NEGATE, 81, 82, 83, 84, 85, 86, 87, 88, 89, 90, 91, 92, 93, 94, 95, 96, OP_NOP, OP_NOP1, 179, 180, 181, 182,
   183, 184, 185, OP_RETURN, OP_2DROP, OP_2DUP, OP_3DUP, OP_2OVER, OP_2ROT, OP_IFDUP, OP_DEPTH, OP_DROP, OP_DUP, OP_NIP,
   OP_OVER, OP_ROT, OP_SWAP, OP_SIZE, OP_RIPEMD160, OP_SHA1, OP_SHA256, OP_HASH160, OP_HASH256]

def arithOps : List Nat :=
  [OP_1ADD, OP_1SUB, OP_NEGATE, OP_ABS, OP_NOT, OP_0NOTEQUAL, OP_ADD, OP_BOOLAND, OP_BOOLOR, OP_NUMEQUAL, OP_NUMNOTEQUAL,
   OP_MIN, OP_MAX]

/-- once the top six stack items are named, both sides are the same term -/
theorem agree_eval (env : Env) : ∀ n ∈ evalOps, ∀ s : Stack, implOp env n s = optToOut (execOp env n s) := by
  simp only [evalOps, List.forall_mem_cons, List.not_mem_nil, false_imp_iff, implies_true, and_true]
  repeat' refine And.intro ?_ ?_
  all_goals
    intro s
    -- evaluate the guards `n = OP_x` once for the opcode, not once for each shape of the stack
    conv => lhs; whnf
    conv => rhs; arg 1; whnf
    -- `eq_refl` (what `rfl` ends in): behind the macro `rfl` every shape costs as much as the first, nothing cached is reused
    rcases s with _ | ⟨a, _ | ⟨b, _ | ⟨c, _ | ⟨d, _ | ⟨e, _ | ⟨f, r⟩⟩⟩⟩⟩⟩ <;> eq_refl

/-- VERIFY, EQUAL, EQUALVERIFY: the same verdict on the same comparison, which the library reads in the other order -/
theorem agree_compare (env : Env) : ∀ n ∈ [OP_VERIFY, OP_EQUAL, OP_EQUALVERIFY],
    ∀ s : Stack, implOp env n s = optToOut (execOp env n s) := by
  simp only [List.forall_mem_cons, List.not_mem_nil, false_imp_iff, implies_true, and_true]
  refine ⟨fun s => ?_, fun s => ?_, fun s => ?_⟩
  · cases s with
    | nil => rfl
    | cons a rest => exact verifyI_cons a rest
  · rcases s with _ | ⟨b, _ | ⟨a, rest⟩⟩
    · rfl
    · rfl
    · show Out.ok (boolItem (b == a) :: rest) = Out.ok (boolItem (a == b) :: rest)
      rw [Bool.beq_comm]
  · -- the guards first: left to `show`, the unifier unfolds `verifyI` too and compares the two sides at every guard
    conv => lhs; whnf
    rcases s with _ | ⟨b, _ | ⟨a, rest⟩⟩
    · rfl
    · rfl
    · show verifyI (boolItem (b == a) :: rest) = optToOut (if (a == b) = true then some rest else none)
      rw [verifyI_cons, Bool.beq_comm]
      cases a == b <;> rfl

section
-- Sealed, `unaryI g s`, `unary f s` … are where the evaluation of `implOp env n s`, `execOp env n s` stops; left open, the
-- unifier unfolds them as well and compares the two sides at every guard on the way (seven times the work).
seal unaryI binaryI unary binary

/-- arithmetic: both interpreters apply the same function to the decoded operands -/
theorem agree_arith (env : Env) : ∀ n ∈ arithOps, ∀ s : Stack, implOp env n s = optToOut (execOp env n s) := by
  simp only [arithOps, List.forall_mem_cons, List.not_mem_nil, false_imp_iff, implies_true, and_true]
  exact ⟨unary_agree (· + 1) fun _ => rfl, unary_agree (· - 1) fun _ => rfl, unary_agree (fun x => -x) fun _ => rfl,
    unary_agree (fun x => if x < 0 then -x else x) fun _ => rfl,
    unary_agree _ fun x => boolItem_eq_numItem (x = 0), unary_agree _ fun x => boolItem_eq_numItem (x ≠ 0),
    binary_agree fun x y => congrArg encodeNum (Int.add_comm y x), binary_agree fun _ _ => boolItem_congr and_comm,
    binary_agree fun _ _ => boolItem_congr or_comm, binary_agree fun _ _ => boolItem_congr eq_comm,
    binary_agree fun _ _ => boolItem_congr ne_comm,
    binary_agree fun x y => congrArg encodeNum (by omega : (if y < x then y else x) = if x < y then x else y),
    binary_agree fun x y => congrArg encodeNum (by omega : (if y > x then y else x) = if x > y then x else y)⟩

end

/-- T1 (per opcode): on every stack, the library's opcode method and consensus give the same
result — same new stack, or failure in both. -/
theorem implOp_agree (env : Env) : ∀ n ∈ agreeOps, ∀ s : Stack, implOp env n s = optToOut (execOp env n s) := by
  intro n hn
  have h := (by decide +kernel : ∀ n ∈ agreeOps, n ∈ evalOps ++ ([OP_VERIFY, OP_EQUAL, OP_EQUALVERIFY] ++ arithOps)) n hn
  rcases List.mem_append.mp h with h | h
  · exact agree_eval env n h
  rcases List.mem_append.mp h with h | h
  · exact agree_compare env n h
  · exact agree_arith env n h

/-- a straight-line program over the agreeing opcode set: data pushes and opcodes of `agreeOps` -/
def Straight (prog : List Item) : Prop :=
  ∀ it ∈ prog, match it with
    | .push _ => True
    | .op n => n ∈ agreeOps

theorem agreeOps_not_flow : ∀ n ∈ agreeOps, n ≠ OP_IF ∧ n ≠ OP_NOTIF ∧ n ≠ OP_ELSE ∧ n ≠ OP_ENDIF := by decide +kernel

/-- the verdict `evalSpec` reads off the final state: `evalSpec env prog` unfolds to `finish (runSpec env ⟨[], []⟩ prog)` -/
def finish : Option St → Result
  | none => .reject
  | some st =>
    if !st.exec.isEmpty then .reject
    else match st.stack with
      | top :: rest => if castToBool top then .accept rest else .reject
      | [] => .reject

theorem loop_straight (env : Env) : ∀ (prog : List Item), Straight prog → ∀ s : Stack,
    loopImpl env (prog.length + 1) prog s = finish (runSpec env ⟨s, []⟩ prog)
  | [], _, _ => rfl
  | it :: rest, hst, s => by
    have ih := loop_straight env rest fun x hx => hst x (List.mem_cons_of_mem _ hx)
    cases it with
    | push d => exact ih (d :: s)
    | op n =>
      have hn : n ∈ agreeOps := hst (.op n) List.mem_cons_self
      obtain ⟨h1, h2, h3, h4⟩ := agreeOps_not_flow n hn
      simp only [loopImpl, runSpec, stepSpec, List.all_nil, if_true, h1, h2, h3, h4, or_self, if_false,
        implOp_agree env n hn s]
      cases execOp env n s with
      | none => rfl
      | some s' => exact ih s'

/-- T2: for every straight-line program over the agreeing opcode set — any length, any data — the
library's evaluation and consensus give the same verdict and the same remaining stack. -/
theorem evalImpl_eq_evalSpec (env : Env) (prog : List Item) (h : Straight prog) :
    evalImpl env prog = evalSpec env prog :=
  loop_straight env prog h []

/-- corollary (safety direction on the fragment): what consensus rejects is not reported valid -/
theorem reject_preserved (env : Env) (prog : List Item) (h : Straight prog) (hr : evalSpec env prog = .reject) :
    evalImpl env prog = .reject := by rw [evalImpl_eq_evalSpec env prog h, hr]

/-! ## Witnesses of listed deviations (all but the last are the witness programs of `known_findings.json`, which every
run replays against the library; that of F13.flow there is a lone `OP_ELSE`) -/

def env0 : Env := { sigOk := fun _ _ => false, sigWellFormed := fun _ => false, keyWellFormed := fun _ => false,
                    ripemd160 := id, sha1 := id, sha256 := id, sequence := 0xfffffffe, locktime := 0, version := 2, redeemscript := none }

/-- F13.sub: `2 5 SUB 3 EQUAL` — the library computes 5-2 -/
theorem F13_sub : evalImpl env0 [.op 82, .op 85, .op OP_SUB, .op 83, .op OP_EQUAL] ≠
    evalSpec env0 [.op 82, .op 85, .op OP_SUB, .op 83, .op OP_EQUAL] := by decide +kernel
/-- F13.tuck: `1 2 TUCK` leaves 1 2 1 (consensus 2 1 2) -/
theorem F13_tuck : evalImpl env0 [.op 81, .op 82, .op OP_TUCK] ≠ evalSpec env0 [.op 81, .op 82, .op OP_TUCK] := by decide +kernel
/-- F13.2swap: `1 2 3 4 2SWAP` — the library leaves x4 x3 x1 x2 where consensus leaves x3 x4 x1 x2 -/
theorem F13_2swap : evalImpl env0 [.op 81, .op 82, .op 83, .op 84, .op OP_2SWAP] ≠
    evalSpec env0 [.op 81, .op 82, .op 83, .op 84, .op OP_2SWAP] := by decide +kernel
/-- F13.pick: `1 2 3 1 PICK 2 EQUAL` — consensus copies the second item from the top, the library the top -/
theorem F13_pick : evalImpl env0 [.op 81, .op 82, .op 83, .op 81, .op OP_PICK, .op 82, .op OP_EQUAL] ≠
    evalSpec env0 [.op 81, .op 82, .op 83, .op 81, .op OP_PICK, .op 82, .op OP_EQUAL] := by decide +kernel
/-- F13.within: consensus `2 1 3 WITHIN` is true; the library reads x from the top -/
theorem F13_within : evalImpl env0 [.op 82, .op 81, .op 83, .op OP_WITHIN] ≠ evalSpec env0 [.op 82, .op 81, .op 83, .op OP_WITHIN] := by
  decide +kernel
/-- F13.lessthan: the comparison opcodes have no method: an exception escapes -/
theorem F13_lessthan : evalImpl env0 [.op 81, .op 82, .op OP_LESSTHAN] = .raises ∧ evalSpec env0 [.op 81, .op 82, .op OP_LESSTHAN] = .accept [] := by
  decide +kernel
/-- F13.flow: a second OP_ELSE does not toggle: `1 IF 0 ELSE 0 ELSE 1 ENDIF` — consensus executes the third branch -/
theorem F13_flow_second_else :
    evalImpl env0 [.op 81, .op OP_IF, .op 0, .op OP_ELSE, .op 0, .op OP_ELSE, .op 81, .op OP_ENDIF] ≠
    evalSpec env0 [.op 81, .op OP_IF, .op 0, .op OP_ELSE, .op 0, .op OP_ELSE, .op 81, .op OP_ENDIF] := by decide +kernel

/-! ## Table theorem: the opcode numbers used by both models are the library's (generated table) -/

theorem opcode_numbers :
    [(OP_IF, "OP_IF"), (OP_NOTIF, "OP_NOTIF"), (OP_ELSE, "OP_ELSE"), (OP_ENDIF, "OP_ENDIF"), (OP_VERIFY, "OP_VERIFY"), (OP_RETURN, "OP_RETURN"),
     (OP_2SWAP, "OP_2SWAP"), (OP_TUCK, "OP_TUCK"), (OP_PICK, "OP_PICK"), (OP_ROLL, "OP_ROLL"), (OP_SIZE, "OP_SIZE"), (OP_EQUAL, "OP_EQUAL"),
     (OP_ADD, "OP_ADD"), (OP_SUB, "OP_SUB"), (OP_WITHIN, "OP_WITHIN"), (OP_LESSTHAN, "OP_LESSTHAN"), (OP_HASH160, "OP_HASH160"),
     (OP_CHECKSIG, "OP_CHECKSIG"), (OP_CHECKMULTISIG, "OP_CHECKMULTISIG"), (OP_CLTV, "OP_CHECKLOCKTIMEVERIFY"),
     (OP_CSV, "OP_CHECKSEQUENCEVERIFY"), (OP_NOP10, "OP_NOP10"), (OP_1NEGATE, "OP_1NEGATE"), (OP_16, "OP_16")].all
      (fun p => Gen.opcodeTable.contains p) = true := by decide +kernel

/-- non-vacuity: a P2PKH-shaped straight-line program is in the fragment -/
example : Straight [.push [1, 2], .push [3], .op OP_DUP, .op OP_HASH160, .push [4], .op OP_EQUALVERIFY] := by
  intro it hit
  simp only [List.mem_cons, List.mem_nil_iff, or_false] at hit
  rcases hit with rfl | rfl | rfl | rfl | rfl | rfl <;> decide +kernel

end Btc.C19
