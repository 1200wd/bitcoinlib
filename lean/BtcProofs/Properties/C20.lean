import BtcModel.Service
/-!
# C20 — Service layer fails over between providers and never fabricates answers

> A blockchain query through the service layer returns exactly what one responding provider
> returned (or the cached copy of such an answer) for every pattern of provider failures:
> providers that raise, time out or answer empty are skipped, and only when no provider answers,
> or the error limit is reached first, does the query fail with an error rather than with partial
> or invented data. Answers served from the cache equal the answers that were stored.

`execLoop` is the loop of `Service._provider_execute` (any number of providers, any outcomes).
-/
namespace Btc.C20

/-- once an answer is recorded it is what the loop returns, whatever follows: every exit returns
the head of `results`, and the loop only appends -/
theorem execLoop_recorded (maxP maxE : Nat) {p w : Nat} (rest : List Outcome) (pos : Nat)
    (st : ExecState) {rs : List (Nat × Nat)} (h : st.results = (p, w) :: rs) :
    (execLoop maxP maxE rest pos st).1 = .value w := by
  induction rest generalizing pos st rs with
  | nil => rw [execLoop, h]
  | cons o rest ih =>
    unfold execLoop
    by_cases hP : st.results.length ≥ maxP
    · rw [if_pos hP, h]
    · rw [if_neg hP]
      cases o with
      | skipped | empty => exact ih _ _ h
      | ok v => exact ih _ _ (rs := rs ++ [(pos, v)]) (by simp only [h, List.cons_append])
      | raises | attrErr =>
        simp only
        split
        · simp only [firstResult, h]
        · exact ih _ _ h

theorem execLoop_first (maxP maxE : Nat) (rest : List Outcome) (pos pos' v : Nat) (st : ExecState)
    (h : st.results = []) :
    (execLoop maxP maxE rest pos' { st with results := st.results ++ [(pos, v)] }).1 = .value v :=
  execLoop_recorded maxP maxE rest pos' _ (p := pos) (rs := []) (by simp only [h, List.nil_append])

theorem execLoop_value (maxP maxE : Nat) {v : Nat} (rest : List Outcome) (pos : Nat)
    (st : ExecState) (h : st.results = []) (hv : (execLoop maxP maxE rest pos st).1 = .value v) :
    ∃ pre post, rest = pre ++ .ok v :: post ∧ ∀ o ∈ pre, ∀ w, o ≠ .ok w := by
  induction rest generalizing pos st with
  | nil =>
    rw [execLoop, h] at hv
    cases hv
  | cons o rest ih =>
    have next (ho : ∀ w, o ≠ .ok w) {st' : ExecState}
        (hv' : (execLoop maxP maxE rest (pos + 1) st').1 = .value v) (h' : st'.results = []) :
        ∃ pre post, o :: rest = pre ++ .ok v :: post ∧ ∀ o ∈ pre, ∀ w, o ≠ .ok w := by
      obtain ⟨pre, post, rfl, hpre⟩ := ih _ _ h' hv'
      exact ⟨o :: pre, post, rfl, List.forall_mem_cons.mpr ⟨ho, hpre⟩⟩
    unfold execLoop at hv
    by_cases hP : st.results.length ≥ maxP
    · rw [if_pos hP, h] at hv
      cases hv
    · rw [if_neg hP] at hv
      cases o with
      | skipped | empty => exact next (by simp) hv h
      | ok w =>
        cases (execLoop_first maxP maxE rest pos (pos + 1) w st h).symm.trans hv
        exact ⟨[], rest, rfl, by simp⟩
      | raises | attrErr =>
        simp only at hv
        split at hv
        · simp [firstResult, h] at hv
        · exact next (by simp) hv h

/-- T1, in full: the value `_provider_execute` returns is the answer of the first provider that
answered; the providers before it were skipped, answered empty or raised. -/
theorem execute_first_answer (maxP maxE : Nat) (outs : List Outcome) (v : Nat)
    (h : (execute maxP maxE outs).1 = .value v) :
    ∃ pre post, outs = pre ++ .ok v :: post ∧ ∀ o ∈ pre, ∀ w, o ≠ .ok w :=
  execLoop_value maxP maxE outs 0 ⟨[], []⟩ rfl h

/-- T1 (never fabricated): whatever `_provider_execute` returns as a value is exactly the answer
one of the providers gave — for any number of providers, any outcomes, any limits. -/
theorem execute_value_from_provider (maxP maxE : Nat) (outs : List Outcome) (v : Nat)
    (h : (execute maxP maxE outs).1 = .value v) : ∃ p : Nat, outs[p]? = some (Outcome.ok v) := by
  obtain ⟨pre, post, rfl, _⟩ := execute_first_answer maxP maxE outs v h
  exact ⟨pre.length, by simp⟩

/-- T2: if no provider answers, the query never yields a value (it fails: error or False) -/
theorem no_answer_no_value (maxP maxE : Nat) (outs : List Outcome) (hno : ∀ (p v : Nat), outs[p]? ≠ some (Outcome.ok v)) (v : Nat) :
    (execute maxP maxE outs).1 ≠ .value v := by
  intro h
  obtain ⟨p, hp⟩ := execute_value_from_provider maxP maxE outs v h
  exact hno p v hp

/-- T3 for any `max_providers ≥ 1` and from any state of the loop in which no answer is recorded
yet (converse of `execLoop_value`): providers that do not answer are passed over as long as the
errors recorded so far plus those of `pre` stay below the limit. -/
theorem execLoop_failover (maxP maxE : Nat) (hP : 0 < maxP) (pre : List Outcome) (v : Nat) (post : List Outcome)
    (pos : Nat) (st : ExecState) (hr : st.results = []) (hpre : ∀ o ∈ pre, ∀ w, o ≠ .ok w)
    (herr : st.errors.length + (pre.filter (fun o => o = .empty ∨ o = .raises)).length < maxE) :
    (execLoop maxP maxE (pre ++ Outcome.ok v :: post) pos st).1 = .value v := by
  have hgo (st : ExecState) (hr : st.results = []) : ¬ st.results.length ≥ maxP := by
    rw [hr]
    exact Nat.not_le.mpr hP
  induction pre generalizing pos st with
  | nil =>
    rw [List.nil_append, execLoop, if_neg (hgo st hr)]
    exact execLoop_first maxP maxE post pos (pos + 1) v st hr
  | cons o pre ih =>
    have hpre' := fun x hx => hpre x (List.mem_cons_of_mem o hx)
    rw [List.cons_append]
    unfold execLoop
    rw [if_neg (hgo st hr)]
    cases o with
    | ok w => exact absurd rfl (hpre _ List.mem_cons_self w)
    | skipped => exact ih _ st hr hpre' herr
    | empty => exact ih _ _ hr hpre' (by simp at herr ⊢; omega)
    | raises =>
      simp only
      rw [if_neg (by simp at herr ⊢; omega)]
      exact ih _ _ hr hpre' (by simp at herr ⊢; omega)
    | attrErr =>
      simp only
      rw [if_neg (by omega)]
      exact ih _ st hr hpre' herr

/-- T3 (failover with the default limits): providers that are skipped, answer empty or raise are
passed over and the first answering provider's answer is returned, as long as fewer than
`maxErrors` errors (empty answers, exceptions other than AttributeError) were recorded before
it. -/
theorem failover_first_ok (maxE : Nat) (pre : List Outcome) (v : Nat) (post : List Outcome)
    (hpre : ∀ o ∈ pre, o = .skipped ∨ o = .empty ∨ o = .raises ∨ o = .attrErr)
    (herr : (pre.filter (fun o => o = .empty ∨ o = .raises)).length < maxE) :
    (execute 1 maxE (pre ++ Outcome.ok v :: post)).1 = .value v :=
  execLoop_failover 1 maxE Nat.one_pos pre v post 0 ⟨[], []⟩ rfl
    (fun o ho w => by rcases hpre o ho with rfl | rfl | rfl | rfl <;> simp) (by simpa using herr)

-- failover past two failing providers; error limit reached first; nothing answers
example : (execute 1 4 [.raises, .empty, .ok 7, .ok 9]).1 = .value 7 := by decide
example : (execute 1 1 [.raises, .ok 7]).1 = .falseRet := by decide
example : (execute 1 4 [.raises, .empty, .skipped]).1 = .error := by decide

/-- `(k, v)` was answered by some provider in one of the queries -/
def Answered (qs : List Query) (k v : Nat) : Prop :=
  ∃ q ∈ qs, q.key = k ∧ ∃ p : Nat, q.outcomes[p]? = some (Outcome.ok v)

theorem Answered.mono {qs qs' : List Query} {k v : Nat} (hsub : ∀ q ∈ qs, q ∈ qs') :
    Answered qs k v → Answered qs' k v
  | ⟨q, hq, hk, hp⟩ => ⟨q, hsub q hq, hk, hp⟩

theorem cacheGet_mem {c : Cache} {k v : Nat} (h : cacheGet c k = some v) : (k, v) ∈ c := by
  obtain ⟨⟨k', v'⟩, hf, rfl⟩ := Option.map_eq_some_iff.mp h
  have hk : k' = k := by simpa using List.find?_some hf
  exact hk ▸ List.mem_of_find?_eq_some hf

theorem cacheGet_cachePut (c : Cache) (k v k' : Nat) :
    cacheGet (cachePut c k v) k' = (cacheGet c k').or (if k = k' then some v else none) := by
  unfold cachePut
  split
  · rename_i hk
    split
    · subst k'
      exact (Option.or_of_isSome hk).symm
    · exact Option.or_none.symm
  · simp only [cacheGet, List.find?_append, Option.map_or, List.find?_singleton, beq_iff_eq,
      apply_ite (Option.map _), Option.map_some, Option.map_none]

theorem mem_cachePut {c : Cache} {k v : Nat} {x : Nat × Nat} (h : x ∈ cachePut c k v) :
    x ∈ c ∨ x = (k, v) := by
  unfold cachePut at h
  split at h
  · exact .inl h
  · simpa using h

/-- T4 (cache): a value read from the cache is the value that was stored for that key; storing for
another key does not change it. -/
theorem cache_get_put (c : Cache) (k v : Nat) (h : cacheGet c k = none) : cacheGet (cachePut c k v) k = some v := by
  rw [cacheGet_cachePut, h, if_pos rfl, Option.none_or]

theorem cache_get_put_other (c : Cache) (k k' v : Nat) (hk : k' ≠ k) : cacheGet (cachePut c k v) k' = cacheGet c k' := by
  rw [cacheGet_cachePut, if_neg (Ne.symm hk), Option.or_none]

theorem queryStep_sound (c : Cache) (q : Query) (past : List Query)
    (hc : ∀ k v, (k, v) ∈ c → Answered past k v) :
    (∀ k v, (k, v) ∈ (queryStep c q).1 → Answered (past ++ [q]) k v) ∧
    (∀ v, (queryStep c q).2 = .value v → Answered (past ++ [q]) q.key v) := by
  have hc' k v (hm : (k, v) ∈ c) : Answered (past ++ [q]) k v :=
    (hc k v hm).mono fun _ => List.mem_append_left _
  unfold queryStep
  split
  · rename_i v0 hg
    refine ⟨hc', ?_⟩
    rintro v ⟨rfl⟩
    exact hc' _ _ (cacheGet_mem hg)
  · split
    · rename_i v0 hr
      obtain ⟨p, hp⟩ := execute_value_from_provider _ _ _ _ hr
      have hnew : Answered (past ++ [q]) q.key v0 := ⟨q, by simp, rfl, p, hp⟩
      refine ⟨fun k v hm => ?_, by rintro v ⟨rfl⟩; exact hnew⟩
      rcases mem_cachePut hm with hm | ⟨rfl, rfl⟩
      · exact hc' k v hm
      · exact hnew
    · rename_i hr
      exact ⟨hc', fun v hv => absurd hv (hr v)⟩

/-- T5 with the queries that may have answered named: those up to and including the one that returned the value -/
theorem answers_from_earlier_queries : ∀ (qs past : List Query) (c : Cache),
    (∀ k v, (k, v) ∈ c → Answered past k v) →
    ∀ (i : Nat) (v : Nat), (runQueries c qs).2[i]? = some (ExecResult.value v) →
      ∃ q, qs[i]? = some q ∧ Answered (past ++ qs.take (i + 1)) q.key v
  | [], _, _, _, i, v, h => by simp [runQueries] at h
  | q :: qs, past, c, hc, i, v, h => by
    obtain ⟨h1, h2⟩ := queryStep_sound c q past hc
    rw [List.take_succ_cons, List.append_cons]
    cases i with
    | zero =>
      rw [runQueries, List.getElem?_cons_zero, Option.some.injEq] at h
      exact ⟨q, rfl, by simpa using h2 v h⟩
    | succ i => exact answers_from_earlier_queries qs (past ++ [q]) (queryStep c q).1 h1 i v h

/-- T5 (never fabricated, over histories): along any sequence of queries — cold, warm or
partially filled cache, any provider failures — every value returned for a key is a value some
provider answered for that key in this or an earlier query. -/
theorem answers_from_providers : ∀ (qs past : List Query) (c : Cache),
    (∀ k v, (k, v) ∈ c → Answered past k v) →
    ∀ (i : Nat) (v : Nat), (runQueries c qs).2[i]? = some (ExecResult.value v) →
      ∃ q, qs[i]? = some q ∧ Answered (past ++ qs) q.key v := fun qs past c hc i v h => by
  obtain ⟨q, hq, ha⟩ := answers_from_earlier_queries qs past c hc i v h
  exact ⟨q, hq, ha.mono fun x hx => (List.mem_append.mp hx).elim (List.mem_append_left _)
    fun hx => List.mem_append_right _ (List.mem_of_mem_take hx)⟩

end Btc.C20
